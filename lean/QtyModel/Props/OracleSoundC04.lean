import QtyModel.Props.OracleSoundBase
import QtyModel.Props.C04RoundTrip
import QtyModel.Props.C04
import QtyModel.Props.C05
import QtyModel.Lemmas.Res
import QtyModel.Lemmas.Basic
/- `OracleSound`, C04: derived product and quotient, and the two-step chains (see `OracleSoundBase.lean`). -/
namespace Qty.OracleSound

variable {A : Type} (R : Arith A)

set_option linter.unusedVariables false in -- `href` is not needed: `C04.derivedOp_sound`
/-- Direct ("soundness") form of `C04.dmul_mag`: for the result `res` that `dmul` returned, the
unit is one of the result table's and the bound holds as soon as the range condition holds for
the unit `res` carries. -/
theorem dmul_sound {U V W : Type} [DecidableEq U] [DecidableEq V] [DecidableEq W]
    {M : ErrModel} (L : Laws R M)
    (TL : QT A U) (TR : QT A V) (TO : QT A W) (hI : TO.fitIdentity = none) (href : TO.ref ∈ TO.units)
    (l : Q A U) (r : Q A V) (a b sl sr : Rat)
    (ha : R.val l.amount = some a) (hb : R.val r.amount = some b)
    (hsl : R.val (TL.scale l.unit) = some sl) (hsr : R.val (TR.scale r.unit) = some sr)
    (sc : W → Rat) (hsc : ∀ u ∈ TO.units, R.val (TO.scale u) = some (sc u) ∧ 0 < sc u)
    (res : Q A W) (hres : dmul R TL TR TO l r = .ok res)
    (hsafe : Oracle.derivedSafe M (a * b) (sl * sr) (sc res.unit) = true) :
    res.unit ∈ TO.units ∧ ∃ z, R.val res.amount = some z ∧
      ratAbs (z * sc res.unit - (a * b) * (sl * sr)) ≤
        Oracle.derivedBound M (a * b) (sl * sr) (sc res.unit) :=
  have hmem := C05.dmul_unit_mem R TL TR TO hI l r res hres
  ⟨hmem, C04.derivedOp_sound R L R.mul TL TR TO l r (L.mul_le ha hb le_rfl) (L.mul_le hsl hsr le_rfl)
    hI res (dmul_eq R TL TR TO l r ▸ hres) (hsc _ hmem).1 (hsc _ hmem).2 hsafe⟩

set_option linter.unusedVariables false in -- `href` is not needed: `C04.derivedOp_sound`
/-- the same for `ddiv` (non-zero divisor amount and divisor scale) -/
theorem ddiv_sound {U V W : Type} [DecidableEq U] [DecidableEq V] [DecidableEq W]
    {M : ErrModel} (L : Laws R M)
    (TL : QT A U) (TR : QT A V) (TO : QT A W) (hI : TO.fitIdentity = none) (href : TO.ref ∈ TO.units)
    (l : Q A U) (r : Q A V) (a b sl sr : Rat)
    (ha : R.val l.amount = some a) (hb : R.val r.amount = some b) (hb0 : b ≠ 0)
    (hsl : R.val (TL.scale l.unit) = some sl) (hsr : R.val (TR.scale r.unit) = some sr) (hsr0 : sr ≠ 0)
    (sc : W → Rat) (hsc : ∀ u ∈ TO.units, R.val (TO.scale u) = some (sc u) ∧ 0 < sc u)
    (res : Q A W) (hres : ddiv R TL TR TO l r = .ok res)
    (hsafe : Oracle.derivedSafe M (a / b) (sl / sr) (sc res.unit) = true) :
    res.unit ∈ TO.units ∧ ∃ z, R.val res.amount = some z ∧
      ratAbs (z * sc res.unit - (a / b) * (sl / sr)) ≤
        Oracle.derivedBound M (a / b) (sl / sr) (sc res.unit) :=
  have hmem := C05.ddiv_unit_mem R TL TR TO hI l r res hres
  ⟨hmem, C04.derivedOp_sound R L R.div TL TR TO l r (L.div_le ha hb hb0 le_rfl)
    (L.div_le hsl hsr hsr0 le_rfl) hI res (ddiv_eq R TL TR TO l r ▸ hres) (hsc _ hmem).1
    (hsc _ hmem).2 hsafe⟩

/- The arguments of the oracles of the ops `dmd` / `ddm`, computed as `Main.lean` computes them
(the `let`s before `Oracle.c04rt M isMul m0 pa1 ps1 sw1 bs pa2 ps2 sw2 (R.val z2)`):
`av`, `bv` = `R.val` of the operand amounts, `sa`, `sb` = `R.val` of the operand unit scales,
`sw1`, `zv1` = `R.val` of the scale of the intermediate's unit and of its amount, `sw2` the same for
the final result. -/
namespace Drv

/-- `let opQ (fwd : Bool) (p q : Rat) : Rat := if fwd then p * q else p / q` -/
def opQ (fwd : Bool) (p q : Rat) : Rat := if fwd then p * q else p / q

/-- `let nz (q : Option Rat) : Option Rat := q.bind (fun q => if q == 0 then none else some q)` -/
def nz (q : Option Rat) : Option Rat := q.bind (fun q => if q == 0 then none else some q)

def pa1 (isMul : Bool) (av bv : Option Rat) : Option Rat :=
  do pure (opQ isMul (← av) (← (if isMul then bv else nz bv)))
def ps1 (isMul : Bool) (sa sb : Option Rat) : Option Rat :=
  do pure (opQ isMul (← sa) (← (if isMul then sb else nz sb)))
def pa2 (isMul : Bool) (zv1 bv : Option Rat) : Option Rat :=
  do pure (opQ (!isMul) (← zv1) (← (if isMul then nz bv else bv)))
def ps2 (isMul : Bool) (sw1 sb : Option Rat) : Option Rat :=
  do pure (opQ (!isMul) (← sw1) (← (if isMul then nz sb else sb)))
def m0 (av sa : Option Rat) : Option Rat := do pure ((← av) * (← sa))
def bs (bv sb : Option Rat) : Option Rat := do pure ((← bv) * (← sb))

/-- the third verdict of the chain ops: `Oracle.c04rt M isMul m0 pa1 ps1 sw1 bs pa2 ps2 sw2 (R.val z2)` -/
def chainRt (M : ErrModel) (isMul : Bool) (av bv sa sb sw1 zv1 sw2 zv2 : Option Rat) : Verdict :=
  Oracle.c04rt M isMul (m0 av sa) (pa1 isMul av bv) (ps1 isMul sa sb) sw1 (bs bv sb)
    (pa2 isMul zv1 bv) (ps2 isMul sw1 sb) sw2 zv2

/-- the whole verdict of the chain ops:
`((Oracle.c04 M pa1 ps1 sw1 zv1).and (Oracle.c04 M pa2 ps2 sw2 (R.val z2))).and (Oracle.c04rt …)` -/
def chainVerdict (M : ErrModel) (isMul : Bool) (av bv sa sb sw1 zv1 sw2 zv2 : Option Rat) : Verdict :=
  ((Oracle.c04 M (pa1 isMul av bv) (ps1 isMul sa sb) sw1 zv1).and
    (Oracle.c04 M (pa2 isMul zv1 bv) (ps2 isMul sw1 sb) sw2 zv2)).and
    (chainRt M isMul av bv sa sb sw1 zv1 sw2 zv2)

theorem nz_eq_some {q : Option Rat} {v : Rat} : nz q = some v ↔ q = some v ∧ v ≠ 0 := by
  cases q with
  | none => exact ⟨nofun, fun h => nomatch h.1⟩
  | some x =>
    rw [nz, Option.bind_some, Option.some.injEq]
    by_cases hx : x = 0
    · rw [if_pos (beq_iff_eq.mpr hx)]
      exact ⟨nofun, fun h => absurd (h.1 ▸ hx) h.2⟩
    · rw [if_neg (mt beq_iff_eq.mp hx), Option.some.injEq]
      exact ⟨fun h => ⟨h, h ▸ hx⟩, And.left⟩

/-- the scales are combined by the same expression as the amounts -/
theorem ps1_eq (isMul : Bool) (sa sb : Option Rat) : ps1 isMul sa sb = pa1 isMul sa sb := rfl
theorem pa2_eq (isMul : Bool) (zv1 bv : Option Rat) : pa2 isMul zv1 bv = pa1 (!isMul) zv1 bv := by
  cases isMul <;> rfl
theorem ps2_eq (isMul : Bool) (sw1 sb : Option Rat) : ps2 isMul sw1 sb = pa1 (!isMul) sw1 sb := by
  cases isMul <;> rfl

/-- the driver hands the oracle an exact product, or an exact quotient by a non-zero value -/
theorem pa1_eq_some {fwd : Bool} {x y : Option Rat} {v : Rat} (h : pa1 fwd x y = some v) :
    ∃ a b, x = some a ∧ y = some b ∧ (fwd = false → b ≠ 0) ∧ v = opQ fwd a b := by
  cases x with
  | none => cases h
  | some a =>
    cases hy : (if fwd then y else nz y) with
    | none => rw [pa1, hy] at h; cases h
    | some b =>
      rw [pa1, hy] at h
      cases h
      cases fwd
      · obtain ⟨rfl, hb⟩ := nz_eq_some.mp hy
        exact ⟨a, b, rfl, rfl, fun _ => hb, rfl⟩
      · exact ⟨a, b, rfl, hy, nofun, rfl⟩

end Drv

/-- one step of a chain, product (`fwd = true`) or quotient: `C04.derivedOp_sound` for the result
the model returned, in the terms of the driver (`sw` the value of the scale of the unit the result
carries; that it is positive is what the oracle tests itself) -/
theorem step_sound {M : ErrModel} (L : Laws R M)
    (TL TR TO : QT A Nat) (hI : TO.fitIdentity = none)
    (fwd : Bool) (l r : Q A Nat) {a b sl sr sw : Rat}
    (ha : R.val l.amount = some a) (hb : R.val r.amount = some b)
    (hsl : R.val (TL.scale l.unit) = some sl) (hsr : R.val (TR.scale r.unit) = some sr)
    (hnz : fwd = false → b ≠ 0 ∧ sr ≠ 0)
    (res : Q A Nat) (hres : (if fwd then dmul R TL TR TO l r else ddiv R TL TR TO l r) = .ok res)
    (hsw : R.val (TO.scale res.unit) = some sw) (hsw0 : 0 < sw)
    (hsafe : Oracle.derivedSafe M (Drv.opQ fwd a b) (Drv.opQ fwd sl sr) sw = true) :
    ∃ z, R.val res.amount = some z ∧
      ratAbs (z * sw - Drv.opQ fwd a b * Drv.opQ fwd sl sr) ≤
        Oracle.derivedBound M (Drv.opQ fwd a b) (Drv.opQ fwd sl sr) sw := by
  cases fwd
  · exact C04.derivedOp_sound R L R.div TL TR TO l r (L.div_le ha hb (hnz rfl).1 le_rfl)
      (L.div_le hsl hsr (hnz rfl).2 le_rfl) hI res (ddiv_eq R TL TR TO l r ▸ hres) hsw hsw0 hsafe
  · exact C04.derivedOp_sound R L R.mul TL TR TO l r (L.mul_le ha hb le_rfl)
      (L.mul_le hsl hsr le_rfl) hI res (dmul_eq R TL TR TO l r ▸ hres) hsw hsw0 hsafe

/-- `Oracle.c04` does not fail when, in the situation in which it judges at all (finite arguments,
positive result scale, in range), the result it is shown satisfies the per-step soundness
statement (`C04.derivedOp_sound`) for the exact products `pa`, `ps` it is given -/
theorem c04_noFail_of_sound {M : ErrModel} (opa ops osw oz : Option Rat)
    (h : ∀ pa ps sw, opa = some pa → ops = some ps → osw = some sw → 0 < sw →
      Oracle.derivedSafe M pa ps sw = true →
      ∃ z, oz = some z ∧ ratAbs (z * sw - pa * ps) ≤ Oracle.derivedBound M pa ps sw) :
    NoFail (Oracle.c04 M opa ops osw oz) := by
  unfold Oracle.c04
  split
  next pa ps sw =>
    refine NoFail.ite_skip fun hpos => NoFail.ite_not_skip fun hsafe => ?_
    obtain ⟨z, hz, hbd⟩ := h pa ps sw rfl rfl rfl (not_le.mp hpos) hsafe
    rw [hz]
    exact .check _ (decide_eq_true hbd)
  · exact .skip _

/-- one step of a chain: `Oracle.c04` with the arguments the chain ops compute for a product
(`fwd = true`) or a quotient (`fwd = false`, zero divisor amount or divisor scale mapped to `none`
by `nz`) accepts what the model's operator returned -/
theorem step_c04_noFail {M : ErrModel} (L : Laws R M)
    (TL TR TO : QT A Nat) (hI : TO.fitIdentity = none)
    (fwd : Bool) (l r : Q A Nat)
    (res : Q A Nat) (hres : (if fwd then dmul R TL TR TO l r else ddiv R TL TR TO l r) = .ok res) :
    NoFail (Oracle.c04 M (Drv.pa1 fwd (R.val l.amount) (R.val r.amount))
      (Drv.pa1 fwd (R.val (TL.scale l.unit)) (R.val (TR.scale r.unit)))
      (R.val (TO.scale res.unit)) (R.val res.amount)) := by
  refine c04_noFail_of_sound _ _ _ _ ?_
  intro pa ps sw hpa hps hsw hsw0 hsafe
  obtain ⟨a, b, ha, hb, hb0, rfl⟩ := Drv.pa1_eq_some hpa
  obtain ⟨sl, sr, hsl, hsr, hsr0, rfl⟩ := Drv.pa1_eq_some hps
  exact step_sound R L TL TR TO hI fwd l r ha hb hsl hsr (fun h => ⟨hb0 h, hsr0 h⟩) res hres hsw hsw0
    hsafe

set_option linter.unusedVariables false in -- `href`, `sc`, `hsc` are not needed: the oracle tests `0 < sw` itself
/-- **C04, derived product** (`Main.lean`, op `dmul`, line `let magV := Oracle.c04 M pa ps sw (R.val z)`
with `isMul = true`): the case `fwd = true` of `step_c04_noFail` -/
theorem c04_mul_accepts_model {M : ErrModel} (L : Laws R M)
    (TL TR TO : QT A Nat) (hI : TO.fitIdentity = none) (href : TO.ref ∈ TO.units)
    (l r : Q A Nat) (a b sl sr : Rat)
    (ha : R.val l.amount = some a) (hb : R.val r.amount = some b)
    (hsl : R.val (TL.scale l.unit) = some sl) (hsr : R.val (TR.scale r.unit) = some sr)
    (sc : Nat → Rat) (hsc : ∀ u ∈ TO.units, R.val (TO.scale u) = some (sc u) ∧ 0 < sc u)
    (res : Q A Nat) (hres : dmul R TL TR TO l r = .ok res) (w : String) :
    Oracle.c04 M (some (a * b)) (some (sl * sr)) (R.val (TO.scale res.unit)) (R.val res.amount) ≠ .fail w := by
  have h := step_c04_noFail R L TL TR TO hI true l r res hres (M := M)
  rw [ha, hb, hsl, hsr] at h
  exact h w

set_option linter.unusedVariables false in -- `href`, `sc`, `hsc` are not needed: the oracle tests `0 < sw` itself
/-- **C04, derived quotient** (`Main.lean`, op `ddiv`, line `let magV := Oracle.c04 M pa ps sw (R.val z)`
with `isMul = false`; also the first `Oracle.c04` of the op `ddm` and the second one of the op `dmd`).
The driver passes `pa = none` when the divisor amount is zero and `ps = none` for a divisor unit of
scale zero (the oracle then skips), so `b ≠ 0` and `sr ≠ 0` are the driver's situation; why the second
guard is there: `c04_div_rejects_model_zero_divisor_scale`. -/
theorem c04_div_accepts_model {M : ErrModel} (L : Laws R M)
    (TL TR TO : QT A Nat) (hI : TO.fitIdentity = none) (href : TO.ref ∈ TO.units)
    (l r : Q A Nat) (a b sl sr : Rat)
    (ha : R.val l.amount = some a) (hb : R.val r.amount = some b) (hb0 : b ≠ 0)
    (hsl : R.val (TL.scale l.unit) = some sl) (hsr : R.val (TR.scale r.unit) = some sr) (hsr0 : sr ≠ 0)
    (sc : Nat → Rat) (hsc : ∀ u ∈ TO.units, R.val (TO.scale u) = some (sc u) ∧ 0 < sc u)
    (res : Q A Nat) (hres : ddiv R TL TR TO l r = .ok res) (w : String) :
    Oracle.c04 M (some (a / b)) (some (sl / sr)) (R.val (TO.scale res.unit)) (R.val res.amount) ≠ .fail w := by
  have h := step_c04_noFail R L TL TR TO hI false l r res hres (M := M)
  rw [ha, hb, hsl, hsr, Drv.pa1, Drv.pa1, if_neg Bool.false_ne_true,
    Drv.nz_eq_some.mpr ⟨rfl, hb0⟩, Drv.nz_eq_some.mpr ⟨rfl, hsr0⟩] at h
  exact h w

namespace ZeroScale
/-- one unit of scale `1.0` -/
def TI : QT F64 Nat := { units := [0], scale := fun _ => F64.one, hasPrefix := fun _ => false, ref := 0 }
/-- one unit of scale `0.0` -/
def TZ : QT F64 Nat := { units := [0], scale := fun _ => F64.zero, hasPrefix := fun _ => false, ref := 0 }
end ZeroScale

/-- `sr ≠ 0` cannot be dropped from `c04_div_accepts_model`: binary64 back-end, divisor unit of
scale `0.0`, `1 / 1`.  The model returns `+inf` (scale quotient `1.0 / 0.0 = +inf`, no unit of that
scale, `_fit` of `1 · inf`); shown `ps = some (1 / 0) = some 0`, everything is "in range" and the
oracle FAILS on the model's own output.  This is why the driver passes `ps = none` (the oracle skips)
for a divisor unit of scale zero, in the op `ddiv` as in `dmd`/`ddm` (`nz sb`).  (In the decimal
back-end the model panics with `divByZero`, so no oracle is evaluated; a unit scale of zero does not
occur in a generated table, whose scales are positive literals.) -/
theorem c04_div_rejects_model_zero_divisor_scale :
    ∃ (TL TR TO : QT F64 Nat) (l r res : Q F64 Nat) (a b sl sr : Rat) (sc : Nat → Rat),
      TO.fitIdentity = none ∧ TO.ref ∈ TO.units ∧
      F64.arith.val l.amount = some a ∧ F64.arith.val r.amount = some b ∧ b ≠ 0 ∧
      F64.arith.val (TL.scale l.unit) = some sl ∧ F64.arith.val (TR.scale r.unit) = some sr ∧
      (∀ u ∈ TO.units, F64.arith.val (TO.scale u) = some (sc u) ∧ 0 < sc u) ∧
      ddiv F64.arith TL TR TO l r = .ok res ∧
      ¬ NoFail (Oracle.c04 ErrModel.f64 (some (a / b)) (some (sl / sr))
        (F64.arith.val (TO.scale res.unit)) (F64.arith.val res.amount)) := by
  refine ⟨ZeroScale.TI, ZeroScale.TZ, ZeroScale.TI, ⟨F64.one, 0⟩, ⟨F64.one, 0⟩, ⟨.inf false, 0⟩,
    1, 1, 1, 0, fun _ => 1,
    rfl, by decide, by decide +kernel, by decide +kernel, one_ne_zero, by decide +kernel,
    by decide +kernel, ?_, by decide +kernel, ?_⟩
  · intro u _
    refine ⟨?_, one_pos⟩
    show F64.arith.val F64.one = some 1
    decide +kernel
  · apply not_noFail_of_isFail
    decide +kernel

/-- `Oracle.c04rt` does not fail when, in the situation in which it judges at all (all arguments
finite, positive result scales, non-zero factor, both steps in range), the final amount is finite
and within the composed bound -/
theorem c04rt_noFail_of_sound {M : ErrModel} (isMul : Bool)
    (om0 opa1 ops1 osw1 obs opa2 ops2 osw2 oz2 : Option Rat)
    (h : ∀ m0 pa1 ps1 sw1 bs pa2 ps2 sw2, om0 = some m0 → opa1 = some pa1 → ops1 = some ps1 →
      osw1 = some sw1 → obs = some bs → opa2 = some pa2 → ops2 = some ps2 → osw2 = some sw2 →
      0 < sw1 → 0 < sw2 → bs ≠ 0 →
      Oracle.derivedSafe M pa1 ps1 sw1 = true → Oracle.derivedSafe M pa2 ps2 sw2 = true →
      ∃ z2, oz2 = some z2 ∧
        ratAbs (z2 * sw2 - m0) ≤
          (if isMul then Oracle.derivedBound M pa2 ps2 sw2 + Oracle.derivedBound M pa1 ps1 sw1 / ratAbs bs
           else Oracle.derivedBound M pa2 ps2 sw2 + Oracle.derivedBound M pa1 ps1 sw1 * ratAbs bs)) :
    NoFail (Oracle.c04rt M isMul om0 opa1 ops1 osw1 obs opa2 ops2 osw2 oz2) := by
  unfold Oracle.c04rt
  split
  next m0 pa1 ps1 sw1 bs pa2 ps2 sw2 =>
    refine NoFail.ite_skip fun hpos => NoFail.ite_skip fun hbs => NoFail.ite_skip fun hsafe => ?_
    simp only [Bool.or_eq_true, decide_eq_true_eq, not_or, not_le, beq_iff_eq,
      Bool.not_eq_true', Bool.not_eq_false] at hpos hbs hsafe
    obtain ⟨z2, hz2, hbd⟩ := h m0 pa1 ps1 sw1 bs pa2 ps2 sw2 rfl rfl rfl rfl rfl rfl rfl rfl
      hpos.1 hpos.2 hbs hsafe.1 hsafe.2
    rw [hz2]
    exact .check _ (decide_eq_true hbd)
  · exact .skip _

set_option linter.unusedVariables false in -- `hrefO`, `hrefL`, `scO`, `hscO`, `scL`, `hscL` are not needed: the oracle tests the signs itself
/-- **C04, two-step chains** (`Main.lean`, ops `dmd` (`isMul = true`, `(x * y) / y`) and `ddm`
(`isMul = false`, `(x / y) * y`), third verdict
`Oracle.c04rt M isMul m0 pa1 ps1 sw1 bs pa2 ps2 sw2 (R.val z2)`): `p` is what the model's first
step returned, `q` what its second step returned on `p` (the driver's `step1`, `step2`); the
oracle's arguments are computed from them by `Drv.chainRt` exactly as the driver does.  The oracle
itself skips unless both steps are in range for the units actually carried, so no range hypothesis
is needed; proved from the per-step statements `dmul_sound` / `ddiv_sound` composed as in
`C04.mul_then_div_mag` / `C04.div_then_mul_mag` (`C04.rt_mul_div`, `C04.rt_div_mul`). -/
theorem c04rt_accepts_model {M : ErrModel} (L : Laws R M)
    (TL TR TO : QT A Nat) (hIO : TO.fitIdentity = none) (hIL : TL.fitIdentity = none)
    (hrefO : TO.ref ∈ TO.units) (hrefL : TL.ref ∈ TL.units)
    (isMul : Bool) (x y : Q A Nat)
    (scO : Nat → Rat) (hscO : ∀ u ∈ TO.units, R.val (TO.scale u) = some (scO u) ∧ 0 < scO u)
    (scL : Nat → Rat) (hscL : ∀ u ∈ TL.units, R.val (TL.scale u) = some (scL u) ∧ 0 < scL u)
    (p q : Q A Nat)
    (h1 : (if isMul then dmul R TL TR TO x y else ddiv R TL TR TO x y) = .ok p)
    (h2 : (if isMul then ddiv R TO TR TL p y else dmul R TO TR TL p y) = .ok q) (w : String) :
    Drv.chainRt M isMul (R.val x.amount) (R.val y.amount) (R.val (TL.scale x.unit))
      (R.val (TR.scale y.unit)) (R.val (TO.scale p.unit)) (R.val p.amount)
      (R.val (TL.scale q.unit)) (R.val q.amount) ≠ .fail w := by
  revert w
  refine c04rt_noFail_of_sound _ _ _ _ _ _ _ _ _ _ ?_
  intro m0 pa1 ps1 sw1 bs pa2 ps2 sw2 hm0 hpa1 hps1 hsw1 hbs hpa2 hps2 hsw2 hsw10 hsw20 hbs0 hsafe1 hsafe2
  -- the oracle's arguments, in terms of the exact values of the operands and of the intermediate
  obtain ⟨a, b, hav, hbv, -, rfl⟩ := Drv.pa1_eq_some hpa1
  obtain ⟨sa, sb, hsa, hsb, -, rfl⟩ := Drv.pa1_eq_some hps1
  obtain ⟨z1, b', hz1, hb', -, rfl⟩ := Drv.pa1_eq_some (Drv.pa2_eq .. ▸ hpa2)
  obtain ⟨sw1', sb', hsw1', hsb', -, rfl⟩ := Drv.pa1_eq_some (Drv.ps2_eq .. ▸ hps2)
  cases hbv.symm.trans hb'
  cases hsb.symm.trans hsb'
  cases hsw1.symm.trans hsw1'
  rw [hav, hsa] at hm0
  rw [hbv, hsb] at hbs
  cases hm0
  cases hbs
  obtain ⟨hb0, hsb0⟩ := mul_ne_zero_iff.mp hbs0
  obtain ⟨z1', hz1', hbd1⟩ := step_sound R L TL TR TO hIO isMul x y hav hbv hsa hsb
    (fun _ => ⟨hb0, hsb0⟩) p h1 hsw1 hsw10 hsafe1
  cases hz1.symm.trans hz1'
  obtain ⟨z2, hz2, hbd2⟩ := step_sound R L TO TR TL hIL (!isMul) p y hz1 hbv hsw1 hsb
    (fun _ => ⟨hb0, hsb0⟩) q (by cases isMul <;> exact h2) hsw2 hsw20 hsafe2
  refine ⟨z2, hz2, ?_⟩
  simp only [ratAbs_eq_abs] at hbd1 hbd2 ⊢
  cases isMul
  · exact C04.rt_div_mul hb0 hsb0 hbd1 hbd2
  · exact C04.rt_mul_div hb0 hsb0 hbd1 hbd2

set_option linter.unusedVariables false in -- as for `c04rt_accepts_model`
/-- **C04, two-step chains, the whole verdict** of the ops `dmd` / `ddm` (`Main.lean`:
`((Oracle.c04 M pa1 ps1 sw1 zv1).and (Oracle.c04 M pa2 ps2 sw2 (R.val z2))).and (Oracle.c04rt …)`)
on the model's own two results -/
theorem chain_accepts_model {M : ErrModel} (L : Laws R M)
    (TL TR TO : QT A Nat) (hIO : TO.fitIdentity = none) (hIL : TL.fitIdentity = none)
    (hrefO : TO.ref ∈ TO.units) (hrefL : TL.ref ∈ TL.units)
    (isMul : Bool) (x y : Q A Nat)
    (scO : Nat → Rat) (hscO : ∀ u ∈ TO.units, R.val (TO.scale u) = some (scO u) ∧ 0 < scO u)
    (scL : Nat → Rat) (hscL : ∀ u ∈ TL.units, R.val (TL.scale u) = some (scL u) ∧ 0 < scL u)
    (p q : Q A Nat)
    (h1 : (if isMul then dmul R TL TR TO x y else ddiv R TL TR TO x y) = .ok p)
    (h2 : (if isMul then ddiv R TO TR TL p y else dmul R TO TR TL p y) = .ok q) (w : String) :
    Drv.chainVerdict M isMul (R.val x.amount) (R.val y.amount) (R.val (TL.scale x.unit))
      (R.val (TR.scale y.unit)) (R.val (TO.scale p.unit)) (R.val p.amount)
      (R.val (TL.scale q.unit)) (R.val q.amount) ≠ .fail w := by
  revert w
  unfold Drv.chainVerdict
  rw [Drv.ps1_eq]
  refine NoFail.and (NoFail.and (step_c04_noFail R L TL TR TO hIO isMul x y p h1) ?_)
    fun w => c04rt_accepts_model R L TL TR TO hIO hIL hrefO hrefL isMul x y scO hscO scL hscL
      p q h1 h2 w
  rw [Drv.pa2_eq, Drv.ps2_eq]
  exact step_c04_noFail R L TO TR TL hIL (!isMul) p y q (by cases isMul <;> exact h2)

end Qty.OracleSound
