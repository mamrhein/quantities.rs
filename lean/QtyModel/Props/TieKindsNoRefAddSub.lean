import QtyModel.Ops
import QtyModel.Generated.Algos
/- Tie between code and model: the definitions re-emitted from the Rust source (`Generated/Algos.lean`) ARE
   the model's, for which trait method `+` and `-` of a quantity type WITHOUT reference unit, and of a
   single-unit type, forward to. -/
namespace Qty.AlgoTie
open Qty.Gen.Algos

variable {A U : Type} [DecidableEq U]
variable (R : Arith A) (T : QT A U)

theorem noRef_add (a b : Q A U) : Kind.noRef.add R T a b = nrAdd R a b := rfl
theorem noRef_sub (a b : Q A U) : Kind.noRef.sub R T a b = nrSub R a b := rfl
set_option linter.unusedSectionVars false in
/-- single-unit types: no unit check, no comparison operators at all (the translator checked
that the template has no `PartialEq` / `PartialOrd` impl) -/
theorem single_add (a b : Q A U) :
    Kind.single.add R T a b = (do return ⟨← R.add a.amount b.amount, a.unit⟩) := rfl
set_option linter.unusedSectionVars false in
theorem single_sub (a b : Q A U) :
    Kind.single.sub R T a b = (do return ⟨← R.sub a.amount b.amount, a.unit⟩) := rfl

end Qty.AlgoTie
