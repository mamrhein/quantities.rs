import QtyModel.Lemmas.Approx
import QtyModel.Rate
import QtyModel.Spec.Temperature
import QtyModel.Generated.TempTable
import QtyModel.Generated.Catalogue
import QtyModel.Lemmas.Res
/-
  C14 — Table-driven conversions apply the declared affine map.

  The statements about `ConversionTable::convert` hold for EVERY table (any list of rows)
  and every quantity; those about the temperature table are kernel evaluations over the
  regenerated rows (`Generated/TempTable.lean`) against the independent formulas of
  `Spec/Temperature.lean`.
-/
namespace Qty.C14

variable {A : Type} (R : Arith A)

/-- the value is returned unchanged when it already has the target unit -/
theorem conv_same_unit (rows : List (ConvRow A)) (q : Q A Nat) :
    tconv R rows q q.unit = .ok (some q) :=
  if_pos rfl

/-- a conversion between different units is one product and one sum with the constants of the
first row for that pair -/
theorem tconv_of_find {rows : List (ConvRow A)} {q : Q A Nat} {tgt : Nat} {r : ConvRow A}
    (h : q.unit ≠ tgt)
    (hfind : rows.find? (fun r => r.fromU == q.unit && r.toU == tgt) = some r) :
    tconv R rows q tgt = (do
      let m ← R.mul q.amount r.factor
      return some ⟨← R.add m r.offset, tgt⟩) := by
  rw [tconv, if_neg h, hfind]

/-- amount × factor + offset of the FIRST table entry for that (from, to) pair -/
theorem conv_first_row (rows : List (ConvRow A)) (q : Q A Nat) (tgt : Nat) (h : q.unit ≠ tgt)
    (pre post : List (ConvRow A)) (r : ConvRow A) (hr : rows = pre ++ r :: post)
    (hmatch : r.fromU = q.unit ∧ r.toU = tgt)
    (hpre : ∀ p ∈ pre, ¬ (p.fromU = q.unit ∧ p.toU = tgt)) :
    tconv R rows q tgt = (do
      let m ← R.mul q.amount r.factor
      return some ⟨← R.add m r.offset, tgt⟩) := by
  refine tconv_of_find R h ?_
  rw [hr, List.find?_append, List.find?_eq_none.mpr fun p hp => by simpa using hpre p hp]
  simp [hmatch.1, hmatch.2]

/-- nothing when the table has no entry for that pair -/
theorem conv_none (rows : List (ConvRow A)) (q : Q A Nat) (tgt : Nat) (h : q.unit ≠ tgt)
    (hno : ∀ p ∈ rows, ¬ (p.fromU = q.unit ∧ p.toU = tgt)) :
    tconv R rows q tgt = .ok none := by
  rw [tconv, if_neg h, List.find?_eq_none.mpr fun p hp => by simpa using hno p hp]

/-- error-propagated value of one table conversion: `a·f + o` -/
def affine (M : ErrModel) (a f o : Approx) : Approx := Approx.add M (Approx.mul M a f) o

/-- the affine map is computed within the propagated rounding bound: if the amount and the row's
factor and offset realise `xa`, `f`, `o`, the result realises `xa·f + o` -/
theorem tconv_sound {M : ErrModel} (L : Laws R M) {rows : List (ConvRow A)} {q : Q A Nat}
    {tgt : Nat} {r : ConvRow A} (h : q.unit ≠ tgt)
    (hfind : rows.find? (fun r => r.fromU == q.unit && r.toU == tgt) = some r)
    {xa f o : Approx} (hx : Realises R q.amount xa) (hf : Realises R r.factor f)
    (ho : Realises R r.offset o) (hok : (affine M xa f o).ok = true) :
    ∃ res, tconv R rows q tgt = .ok (some res) ∧ res.unit = tgt ∧
      Realises R res.amount (affine M xa f o) := by
  obtain ⟨m, hmul, hm⟩ := hx.mul L hf (add_ok_left _ _ hok)
  obtain ⟨c, hadd, hc⟩ := hm.add L ho hok
  exact ⟨⟨c, tgt⟩, by rw [tconv_of_find R h hfind, hmul, Res.ok_bind, hadd]; rfl, rfl, hc⟩

set_option linter.unusedVariables false in
/-- `tconv_sound` for an exactly known input amount `x`: if the row's factor and offset realise the
published constants `f`, `o`, the result realises `x·f + o` (`hfe`, `hoe` are not used) -/
theorem conv_affine_sound {M : ErrModel} (L : Laws R M) (rows : List (ConvRow A)) (q : Q A Nat) (tgt : Nat)
    (h : q.unit ≠ tgt) (r : ConvRow A)
    (hfind : rows.find? (fun r => r.fromU == q.unit && r.toU == tgt) = some r)
    (x : Rat) (f o : Approx) (hx : R.val q.amount = some x)
    (hf : Realises R r.factor f) (ho : Realises R r.offset o) (hfe : 0 ≤ f.err) (hoe : 0 ≤ o.err)
    (hok : (Approx.add M (Approx.mul M (Approx.exact x) f) o).ok = true) :
    ∃ res, tconv R rows q tgt = .ok (some res) ∧ res.unit = tgt ∧
      Realises R res.amount (Approx.add M (Approx.mul M (Approx.exact x) f) o) :=
  tconv_sound R L h hfind (exact_sound R hx) hf ho hok

/-- constant name ↦ unit name of `Temperature` (the code points spell that name), through the
model of the macro -/
def tempNames : List (Text × Text) :=
  match Gen.Catalogue.items.find? (fun it => it.name == [84, 101, 109, 112, 101, 114, 97, 116, 117, 114, 101]) with
  | some it => match MacroFront.expand it with
    | .ok d => d.units.map (fun u => (u.constName, u.name))
    | .error _ => []
  | none => []

def nameOfConst (c : Text) : Text := ((tempNames.find? (fun p => p.1 == c)).map (·.2)).getD []

/-- the table has a row for every ordered pair of distinct units of Kelvin, °C, °F -/
theorem temp_covers_all_pairs :
    tempNames.length = 3 ∧
    tempNames.all (fun a => tempNames.all (fun b =>
      a.1 == b.1 || Gen.Temp.rows.any (fun r => r.1 == a.1 && r.2.1 == b.1))) = true := by
  decide +kernel

/-- every row's factor and offset literal is the constant of the exact physical formula,
up to half a unit in the 18th decimal place (5/9 and 45967/180 do not terminate) -/
theorem temp_rows_match_formulas :
    Gen.Temp.rows.all (fun r =>
      match Spec.Temp.formula (nameOfConst r.1) (nameOfConst r.2.1) with
      | some (F, O) =>
        decide (ratAbs (r.2.2.1.value - F) ≤ 1 / (2 * pow10 18)) &&
        decide (ratAbs (r.2.2.2.value - O) ≤ 1 / (2 * pow10 18))
      | none => false) = true := by
  decide +kernel

/-- unit name ↦ `(s, c)`: a reading `t` in that unit is `t·s + c` kelvin -/
def toKelvin (n : Text) : Option (Rat × Rat) :=
  if n = Spec.Temp.kelvin then some (1, 0)
  else if n = Spec.Temp.celsius then some (1, 27315 / 100)
  else if n = Spec.Temp.fahrenheit then some (5 / 9, 45967 / 100 * (5 / 9))
  else none

/-- every exact formula is "to kelvin, then from kelvin" -/
theorem formula_via_kelvin {a b : Text} {F O : Rat} (h : Spec.Temp.formula a b = some (F, O)) :
    ∃ sa ca sb cb, toKelvin a = some (sa, ca) ∧ toKelvin b = some (sb, cb) ∧ sa ≠ 0 ∧ sb ≠ 0 ∧
      F = sa / sb ∧ O = (ca - cb) / sb := by
  unfold Spec.Temp.formula at h
  -- one row of the table at a time
  iterate 6
    obtain ⟨hc, h⟩ | ⟨-, h⟩ := ite_eq_iff.mp h
    · obtain ⟨ha, hb⟩ := Bool.and_eq_true_iff.mp hc
      cases eq_of_beq ha
      cases eq_of_beq hb
      cases h
      exact ⟨_, _, _, _, rfl, rfl, by norm_num⟩
  cases h

/-- the exact formulas are mutually inverse -/
theorem formula_inverse (a b : Text) (F O F' O' : Rat)
    (h1 : Spec.Temp.formula a b = some (F, O)) (h2 : Spec.Temp.formula b a = some (F', O')) :
    F * F' = 1 ∧ O * F' + O' = 0 := by
  obtain ⟨sa, ca, sb, cb, ha, hb, ha0, hb0, rfl, rfl⟩ := formula_via_kelvin h1
  obtain ⟨_, _, _, _, hb', ha', -, -, rfl, rfl⟩ := formula_via_kelvin h2
  cases ha.symm.trans ha'
  cases hb.symm.trans hb'
  constructor
  · field_simp
  · field_simp
    ring

/-- and compose consistently: converting a → b → c is converting a → c -/
theorem formula_compose (a b c : Text) (F1 O1 F2 O2 F3 O3 : Rat)
    (h1 : Spec.Temp.formula a b = some (F1, O1)) (h2 : Spec.Temp.formula b c = some (F2, O2))
    (h3 : Spec.Temp.formula a c = some (F3, O3)) :
    F1 * F2 = F3 ∧ O1 * F2 + O2 = O3 := by
  obtain ⟨sa, ca, sb, cb, ha, hb, ha0, hb0, rfl, rfl⟩ := formula_via_kelvin h1
  obtain ⟨_, _, sc, cc, hb', hc, -, hc0, rfl, rfl⟩ := formula_via_kelvin h2
  obtain ⟨_, _, _, _, ha', hc', -, -, rfl, rfl⟩ := formula_via_kelvin h3
  cases ha.symm.trans ha'
  cases hb.symm.trans hb'
  cases hc.symm.trans hc'
  constructor
  · field_simp
  · field_simp
    ring

/-- non-vacuity: 20 °C → °F through a one-row table in the decimal back-end -/
example : tconv Dec.arith [⟨0, 1, ⟨18, 1⟩, ⟨32, 0⟩⟩] ⟨⟨20, 0⟩, 0⟩ 1 = .ok (some ⟨⟨680, 1⟩, 1⟩) := by
  decide +kernel

end Qty.C14
