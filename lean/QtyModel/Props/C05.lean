import QtyModel.Lemmas.ListFind
import QtyModel.Lemmas.DecLaws
import QtyModel.Lemmas.F64Laws
import QtyModel.Lemmas.Res
import QtyModel.Lemmas.Basic
/-
  C05 — Derived results use the natural or the best-fitting unit.
-/
namespace Qty.C05

-- The statements of this file carry these instances although `fit`, `eligible`, `unitFromScale`
-- and `dmul` take none; the helpers that do not hand them on silence the linter.
variable {A U V W : Type} [DecidableEq U] [DecidableEq V] [DecidableEq W] (R : Arith A)

set_option linter.unusedSectionVars false in
/-- the eligible units: all units if the reference unit has no SI prefix, else the SI-prefixed ones -/
theorem mem_eligible (T : QT A U) (u : U) :
    u ∈ eligible T ↔ u ∈ T.units ∧ (T.hasPrefix T.ref = false ∨ T.hasPrefix u = true) := by
  simp [eligible, List.mem_filter]

/-- the reference unit is always eligible, so `_fit`'s `unwrap` cannot fail on a table that lists it -/
theorem ref_eligible (T : QT A U) (h : T.ref ∈ T.units) : T.ref ∈ eligible T := by
  rw [mem_eligible]
  refine ⟨h, ?_⟩
  cases T.hasPrefix T.ref <;> simp

set_option linter.unusedSectionVars false in
theorem fit_cases (T : QT A U) (hI : T.fitIdentity = none) (x : A) (r : Q A U)
    (h : fit R T x = .ok r) :
    ∃ first rest, eligible T = first :: rest ∧ r.unit = fitUnit R T first rest x ∧
      R.div x (T.scale r.unit) = .ok r.amount := by
  cases he : eligible T with
  | nil => unfold fit at h; rw [hI, he] at h; cases h
  | cons first rest =>
    rw [fit_eq R T hI he, Res.map_eq_ok] at h
    obtain ⟨c, hc, rfl⟩ := h
    exact ⟨first, rest, rfl, rfl, hc⟩

/-- on a table that lists its reference unit (and does not override `_fit`), `_fit` is one
division of the magnitude by the scale of some eligible unit -/
theorem fit_eq_div (T : QT A U) (hI : T.fitIdentity = none) (h : T.ref ∈ T.units) (x : A) :
    ∃ w ∈ eligible T, fit R T x = (R.div x (T.scale w)).map (fun a => (⟨a, w⟩ : Q A U)) := by
  cases he : eligible T with
  | nil => exact absurd (ref_eligible T h) (by rw [he]; exact List.not_mem_nil)
  | cons first rest => exact ⟨_, fitUnit_mem R T first rest x, fit_eq R T hI he x⟩

/-- `_fit` returns when its one division does -/
theorem fit_ok_of_div (T : QT A U) (h : T.ref ∈ T.units) (x : A)
    (hdiv : ∀ w ∈ eligible T, ∃ c, R.div x (T.scale w) = .ok c) : ∃ r, fit R T x = .ok r := by
  cases hI : T.fitIdentity with
  | some mk => exact ⟨mk x T.ref, by rw [fit, hI]⟩
  | none =>
    obtain ⟨w, hw, hfit⟩ := fit_eq_div R T hI h x
    exact hfit ▸ Res.exists_ok_map _ (hdiv w hw)

/-- the only way `_fit` reports `unwrap-none` is that the amount type's division does.
`hdiv` cannot be dropped for an abstract `R` (`fit_unwrap_none_of_div`); both back-ends satisfy it
for all operands. -/
theorem fit_never_unwrap_none (T : QT A U) (h : T.ref ∈ T.units) (x : A)
    (hdiv : ∀ u ∈ eligible T, R.div x (T.scale u) ≠ .error .unwrapNone) :
    fit R T x ≠ .error .unwrapNone := by
  intro hh
  cases hI : T.fitIdentity with
  | some mk => unfold fit at hh; rw [hI] at hh; cases hh
  | none =>
    obtain ⟨w, hw, hfit⟩ := fit_eq_div R T hI h x
    exact hdiv w hw (Res.map_eq_error.mp (hfit ▸ hh))

/-- witness that the extra hypothesis of `fit_never_unwrap_none` cannot be dropped -/
theorem fit_unwrap_none_of_div :
    ∃ (R : Arith Unit) (T : QT Unit Unit) (x : Unit),
      T.ref ∈ T.units ∧ fit R T x = .error .unwrapNone :=
  ⟨{ zero := (), one := (), add := fun _ _ => .ok (), sub := fun _ _ => .ok (),
     mul := fun _ _ => .ok (), div := fun _ _ => .error .unwrapNone, neg := fun _ => .ok (),
     beq := fun _ _ => true, pcmp := fun _ _ => some .eq, val := fun _ => some 0,
     ofLit := fun _ => some (), same := fun _ _ => true },
   { units := [()], scale := fun _ => (), hasPrefix := fun _ => false, ref := () }, (),
   by simp, by decide⟩

/-- without `hdiv` in both back-ends: their division never reports `unwrap-none` -/
theorem fit_never_unwrap_none_dec (T : QT Dec U) (h : T.ref ∈ T.units) (x : Dec) :
    fit Dec.arith T x ≠ .error .unwrapNone :=
  fit_never_unwrap_none Dec.arith T h x (fun u _ => Dec.div_ne_unwrapNone x (T.scale u))

theorem fit_never_unwrap_none_f64 (T : QT F64 U) (h : T.ref ∈ T.units) (x : F64) :
    fit F64.arith T x ≠ .error .unwrapNone :=
  fit_never_unwrap_none F64.arith T h x (fun u _ => F64.div_ne_unwrapNone x (T.scale u))

/-- the fitted value always carries an eligible unit (hence a unit of the result quantity)
and its amount is the magnitude divided by that unit's scale -/
theorem fit_unit_mem (T : QT A U) (hI : T.fitIdentity = none) (x : A) (r : Q A U)
    (h : fit R T x = .ok r) : r.unit ∈ eligible T ∧ R.div x (T.scale r.unit) = .ok r.amount := by
  obtain ⟨first, rest, heq, hu, hd⟩ := fit_cases R T hI x r h
  exact ⟨heq ▸ hu ▸ fitUnit_mem R T first rest x, hd⟩

/-- Characterisation of the unit `_fit` chooses.  `sc u` is the exact value of the scale of `u`,
`xv` the exact value of the magnitude; the eligible units are listed in non-decreasing scale
order (C09).  Either the chosen unit `w` is a largest eligible unit whose scale does not
exceed the magnitude, or no eligible unit's scale is `≤` the magnitude and `w` is a smallest one. -/
theorem fit_spec {M : ErrModel} (L : Laws R M) (T : QT A U) (hI : T.fitIdentity = none)
    (sc : U → Rat) (hsc : ∀ u ∈ eligible T, R.val (T.scale u) = some (sc u))
    (hsorted : (eligible T).Pairwise (fun u v => sc u ≤ sc v))
    (x : A) (xv : Rat) (hx : R.val x = some xv) (r : Q A U) (h : fit R T x = .ok r) :
    r.unit ∈ eligible T ∧
    ((sc r.unit ≤ xv ∧ ∀ v ∈ eligible T, sc v ≤ xv → sc v ≤ sc r.unit) ∨
     ((∀ v ∈ eligible T, xv < sc v) ∧ ∀ v ∈ eligible T, sc r.unit ≤ sc v)) := by
  obtain ⟨first, rest, heq, hu, -⟩ := fit_cases R T hI x r h
  refine ⟨heq ▸ hu ▸ fitUnit_mem R T first rest x, ?_⟩
  rw [heq] at hsc hsorted ⊢
  rw [List.pairwise_cons] at hsorted
  obtain ⟨hfirst, hrest⟩ := hsorted
  -- the filter's test in terms of the exact values
  have hp : ∀ v ∈ rest, ((R.gt (T.scale v) (T.scale first) && R.le (T.scale v) x) = true ↔
      sc first < sc v ∧ sc v ≤ xv) := by
    intro v hv
    rw [Bool.and_eq_true, L.gt_iff (hsc v (List.mem_cons_of_mem _ hv)) (hsc first List.mem_cons_self),
      L.le_iff (hsc v (List.mem_cons_of_mem _ hv)) hx]
  rw [hu, fitUnit]
  cases hl : (rest.filter (fun u => R.gt (T.scale u) (T.scale first) && R.le (T.scale u) x)).getLast? with
  | none =>
    -- no unit of `rest` lies above `first` and not above `xv`: `first` is the answer, and the smallest
    simp only [Option.getD_none]
    have hnone : ∀ v ∈ rest, ¬ (sc first < sc v ∧ sc v ≤ xv) := by
      intro v hv hc
      have hvm : v ∈ rest.filter (fun u => R.gt (T.scale u) (T.scale first) && R.le (T.scale u) x) :=
        List.mem_filter.mpr ⟨hv, (hp v hv).mpr hc⟩
      rw [List.getLast?_eq_none_iff] at hl
      rw [hl] at hvm
      cases hvm
    have hmin : ∀ v ∈ first :: rest, sc first ≤ sc v := by
      intro v hv
      rcases List.mem_cons.mp hv with rfl | hv
      · exact le_refl _
      · exact hfirst v hv
    by_cases hfx : sc first ≤ xv
    · left
      refine ⟨hfx, ?_⟩
      intro v hv hvx
      rcases List.mem_cons.mp hv with rfl | hv
      · exact le_refl _
      · by_contra hc
        exact hnone v hv ⟨not_le.mp hc, hvx⟩
    · right
      refine ⟨?_, hmin⟩
      intro v hv
      exact lt_of_lt_of_le (not_le.mp hfx) (hmin v hv)
  | some w =>
    -- `w` is the last, hence by sortedness the largest, unit passing the test
    simp only [Option.getD_some]
    obtain ⟨hwm, hpw, hall⟩ := getLast?_filter_pairwise (fun u v => sc u ≤ sc v) _ rest hrest w hl
    have hw := (hp w hwm).mp hpw
    left
    refine ⟨hw.2, ?_⟩
    intro v hv hvx
    rcases List.mem_cons.mp hv with rfl | hv
    · exact le_of_lt hw.1
    · by_cases hc : sc first < sc v
      · rcases hall v hv ((hp v hv).mpr ⟨hc, hvx⟩) with rfl | h'
        · exact le_refl _
        · exact h'
      · exact le_trans (not_lt.mp hc) (le_of_lt hw.1)

set_option linter.unusedSectionVars false in
theorem derivedOp_unit_mem (op : A → A → Res A) (TL : QT A U) (TR : QT A V) (TO : QT A W)
    (hI : TO.fitIdentity = none) (l : Q A U) (r : Q A V) (res : Q A W)
    (h : derivedOp R op TL TR TO l r = .ok res) : res.unit ∈ TO.units := by
  obtain ⟨s, hs, -⟩ := Res.bind_eq_ok.mp h
  cases hf : unitFromScale R TO s with
  | some u =>
    exact Res.unit_of_map_eq_ok (derivedOp_natural hs hf ▸ h) ▸ List.mem_of_find?_eq_some hf
  | none =>
    rw [derivedOp_fitted hs hf] at h
    obtain ⟨p, -, h⟩ := Res.bind_eq_ok.mp h
    obtain ⟨x, -, h⟩ := Res.bind_eq_ok.mp h
    exact ((mem_eligible TO _).mp (fit_unit_mem R TO hI x res h).1).1

section
set_option linter.unusedSectionVars false

/-- natural unit: if some unit of the result quantity has a scale equal (in the amount type) to the
computed product of the operand scales, the result uses the FIRST such unit in iteration order
and its amount is exactly the amount type's product of the operand amounts -/
theorem dmul_natural (TL : QT A U) (TR : QT A V) (TO : QT A W) (l : Q A U) (r : Q A V)
    (s : A) (hs : R.mul (TL.scale l.unit) (TR.scale r.unit) = .ok s)
    (w : W) (hw : TO.units.find? (fun u => R.beq (TO.scale u) s) = some w) :
    dmul R TL TR TO l r = (R.mul l.amount r.amount).map (fun a => ⟨a, w⟩) :=
  dmul_eq R TL TR TO l r ▸ derivedOp_natural hs hw

theorem ddiv_natural (TL : QT A U) (TR : QT A V) (TO : QT A W) (l : Q A U) (r : Q A V)
    (s : A) (hs : R.div (TL.scale l.unit) (TR.scale r.unit) = .ok s)
    (w : W) (hw : TO.units.find? (fun u => R.beq (TO.scale u) s) = some w) :
    ddiv R TL TR TO l r = (R.div l.amount r.amount).map (fun a => ⟨a, w⟩) :=
  ddiv_eq R TL TR TO l r ▸ derivedOp_natural hs hw

/-- otherwise the result is the fitted reference-unit magnitude `(a·b)·scale` -/
theorem dmul_fitted (TL : QT A U) (TR : QT A V) (TO : QT A W) (l : Q A U) (r : Q A V)
    (s : A) (hs : R.mul (TL.scale l.unit) (TR.scale r.unit) = .ok s)
    (hw : TO.units.find? (fun u => R.beq (TO.scale u) s) = none) :
    dmul R TL TR TO l r = (do fit R TO (← R.mul (← R.mul l.amount r.amount) s)) :=
  dmul_eq R TL TR TO l r ▸ derivedOp_fitted hs hw

theorem ddiv_fitted (TL : QT A U) (TR : QT A V) (TO : QT A W) (l : Q A U) (r : Q A V)
    (s : A) (hs : R.div (TL.scale l.unit) (TR.scale r.unit) = .ok s)
    (hw : TO.units.find? (fun u => R.beq (TO.scale u) s) = none) :
    ddiv R TL TR TO l r = (do fit R TO (← R.mul (← R.div l.amount r.amount) s)) :=
  ddiv_eq R TL TR TO l r ▸ derivedOp_fitted hs hw

end

/-- the result of a derived product always carries a unit of the result quantity -/
theorem dmul_unit_mem (TL : QT A U) (TR : QT A V) (TO : QT A W) (hI : TO.fitIdentity = none)
    (l : Q A U) (r : Q A V) (res : Q A W) (h : dmul R TL TR TO l r = .ok res) :
    res.unit ∈ TO.units :=
  derivedOp_unit_mem R R.mul TL TR TO hI l r res (dmul_eq R TL TR TO l r ▸ h)

theorem ddiv_unit_mem (TL : QT A U) (TR : QT A V) (TO : QT A W) (hI : TO.fitIdentity = none)
    (l : Q A U) (r : Q A V) (res : Q A W) (h : ddiv R TL TR TO l r = .ok res) :
    res.unit ∈ TO.units :=
  derivedOp_unit_mem R R.div TL TR TO hI l r res (ddiv_eq R TL TR TO l r ▸ h)

set_option linter.unusedSectionVars false in
/-- `unit_from_scale` of an amount with exact value one finds the reference unit when it is the
first unit of scale one -/
theorem unitFromScale_one {M : ErrModel} (L : Laws R M) (TO : QT A W)
    (sc : W → Rat) (hsc : ∀ u ∈ TO.units, R.val (TO.scale u) = some (sc u))
    (pre post : List W) (hunits : TO.units = pre ++ TO.ref :: post)
    (href : sc TO.ref = 1) (hpre : ∀ u ∈ pre, sc u ≠ 1)
    (s : A) (hs : R.val s = some 1) : unitFromScale R TO s = some TO.ref := by
  have hb : ∀ u ∈ TO.units, R.beq (TO.scale u) s = decide (sc u = 1) :=
    fun u hu => L.beq_val _ _ _ _ (hsc u hu) hs
  rw [hunits] at hb
  rw [unitFromScale, hunits, List.find?_append, List.find?_eq_none.mpr, Option.none_or,
    List.find?_cons_of_pos]
  · rw [hb _ (by simp), href]; rfl
  · intro u hu
    rw [hb u (by simp [hu])]
    simpa using hpre u hu

set_option linter.unusedSectionVars false in
/-- a generated operator whose operands' unit scales combine to an amount of value one answers in
the reference unit of a result type in which `unit_from_scale` of every amount of value one finds
the reference unit (`unitFromScale_one`; for generated tables `Bridge.refNatural_generated`) -/
theorem derivedOp_ref_natural (op : A → A → Res A) (TL : QT A U) (TR : QT A V) (TO : QT A W)
    (hO : ∀ s, R.val s = some 1 → unitFromScale R TO s = some TO.ref)
    (l : Q A U) (r : Q A V) (s : A)
    (hs : op (TL.scale l.unit) (TR.scale r.unit) = .ok s) (hs1 : R.val s = some 1)
    (res : Q A W) (h : derivedOp R op TL TR TO l r = .ok res) : res.unit = TO.ref :=
  Res.unit_of_map_eq_ok (derivedOp_natural hs (hO s hs1) ▸ h)

section
variable {M : ErrModel} (L : Laws R M) (TL : QT A U) (TR : QT A V) (TO : QT A W)
  (hsl : R.val (TL.scale TL.ref) = some 1) (hsr : R.val (TR.scale TR.ref) = some 1)
  (hO : ∀ s, R.val s = some 1 → unitFromScale R TO s = some TO.ref)
  (l : Q A U) (r : Q A V) (hl : l.unit = TL.ref) (hr : r.unit = TR.ref) (res : Q A W)
include L hsl hsr hO hl hr

/-- reference unit times reference unit is expressed in the reference unit; the operands may be of
any tables whose reference unit has scale one -/
theorem dmul_ref_units_natural (h : dmul R TL TR TO l r = .ok res) : res.unit = TO.ref := by
  obtain ⟨s, hs, hsv⟩ := L.one_mul_val _ _ 1 hsl hsr
  rw [← hl, ← hr] at hs
  exact derivedOp_ref_natural R R.mul TL TR TO hO l r s hs hsv res (dmul_eq R TL TR TO l r ▸ h)

theorem ddiv_ref_units_natural (h : ddiv R TL TR TO l r = .ok res) : res.unit = TO.ref := by
  obtain ⟨s, hs, hsv⟩ := L.div_self_val _ _ 1 hsl hsr one_ne_zero
  rw [← hl, ← hr] at hs
  exact derivedOp_ref_natural R R.div TL TR TO hO l r s hs hsv res (ddiv_eq R TL TR TO l r ▸ h)

end

/-- operands given in reference units produce a result in the reference unit, provided the
reference unit of the result comes first among its units of scale one (C09) -/
theorem dmul_ref_units {M : ErrModel} (L : Laws R M) (TL : QT A U) (TR : QT A V) (TO : QT A W)
    (l : Q A U) (r : Q A V) (hl : l.unit = TL.ref) (hr : r.unit = TR.ref)
    (hsl : R.val (TL.scale TL.ref) = some 1) (hsr : R.val (TR.scale TR.ref) = some 1)
    (sc : W → Rat) (hsc : ∀ u ∈ TO.units, R.val (TO.scale u) = some (sc u))
    (pre post : List W) (hunits : TO.units = pre ++ TO.ref :: post)
    (href : sc TO.ref = 1) (hpre : ∀ u ∈ pre, sc u ≠ 1)
    (res : Q A W) (h : dmul R TL TR TO l r = .ok res) : res.unit = TO.ref :=
  dmul_ref_units_natural R L TL TR TO hsl hsr
    (unitFromScale_one R L TO sc hsc pre post hunits href hpre) l r hl hr res h

theorem ddiv_ref_units {M : ErrModel} (L : Laws R M) (TL : QT A U) (TR : QT A V) (TO : QT A W)
    (l : Q A U) (r : Q A V) (hl : l.unit = TL.ref) (hr : r.unit = TR.ref)
    (hsl : R.val (TL.scale TL.ref) = some 1) (hsr : R.val (TR.scale TR.ref) = some 1)
    (sc : W → Rat) (hsc : ∀ u ∈ TO.units, R.val (TO.scale u) = some (sc u))
    (pre post : List W) (hunits : TO.units = pre ++ TO.ref :: post)
    (href : sc TO.ref = 1) (hpre : ∀ u ∈ pre, sc u ≠ 1)
    (res : Q A W) (h : ddiv R TL TR TO l r = .ok res) : res.unit = TO.ref :=
  ddiv_ref_units_natural R L TL TR TO hsl hsr
    (unitFromScale_one R L TO sc hsc pre post hunits href hpre) l r hl hr res h

/-- non-vacuity: a three-unit table (scales 0.001, 1, 1000; no SI prefix on the reference unit)
where fitting 2500 chooses the unit with scale 1000 and fitting 0.0002 falls back to the smallest -/
example :
    let T : QT Dec Nat := { units := [0, 1, 2],
                            scale := fun u => if u = 0 then ⟨1, 3⟩ else if u = 1 then ⟨10, 1⟩ else ⟨1000, 0⟩,
                            hasPrefix := fun _ => false, ref := 1 }
    fit Dec.arith T ⟨2500, 0⟩ = .ok ⟨⟨25, 1⟩, 2⟩ ∧ fit Dec.arith T ⟨2, 4⟩ = .ok ⟨⟨2, 1⟩, 0⟩ := by
  decide +kernel

end Qty.C05
