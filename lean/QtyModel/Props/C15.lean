import QtyModel.Lemmas.Pad
/-
  C15 — Text output is faithful and parseable.  (partial: `core::fmt` is modelled)

  Shape, width, placement and splitting of the model `Fmt` of `Quantity::fmt` and `Display for Rate`
  (`Fmt.padNumeric` = `pad_integral`; unit symbols alone go through `Fmt.padStr` = `Formatter::pad`,
  tied in `TieFmt.lean`).  The amount texts of both back-ends are computed by the model as well:
  `C15Dec.lean`, `C15F64.lean`; the end-to-end statements are in `C15RoundTrip.lean`.
-/
namespace Qty.C15
open Qty.Fmt

/-- without a width: sign, amount text, ONE space, unit symbol — nothing else -/
theorem fmt_shape (sp : Spec) (nonneg : Bool) (amt sym : Text) (h : sp.width = none) :
    qtyFmt sp nonneg amt sym = signOf sp nonneg ++ amt ++ [32] ++ sym := by
  simp [qtyFmt, padNumeric, h, signOf, List.append_assoc]

/-- the displayed length IN CHARACTERS is the requested width, or the natural length if that is larger -/
theorem fmt_width (sp : Spec) (nonneg : Bool) (body : Text) :
    (padNumeric sp nonneg body).length =
      max (sp.width.getD 0) (body.length + (signOf sp nonneg).length) := by
  have := padding_sum sp (body.length + (signOf sp nonneg).length)
  rw [padNumeric_eq]
  simp only [List.length_append, rep, List.length_replicate]
  rw [← Nat.sub_add_eq_max, ← this]
  omega

/-- sign, fill and alignment apply to the text as a whole: the output is
`fill* ++ sign ++ body ++ fill*`, or `sign ++ 0* ++ body` with the zero flag; the sign is
adjacent to the amount text and occurs once -/
theorem fmt_placement (sp : Spec) (nonneg : Bool) (body : Text) :
    ∃ pre post : Nat,
      (sp.zero = true → padNumeric sp nonneg body = signOf sp nonneg ++ rep pre 48 ++ body ∧ post = 0) ∧
      (sp.zero = false → padNumeric sp nonneg body =
          rep pre (sp.fill.getD 32) ++ signOf sp nonneg ++ body ++ rep post (sp.fill.getD 32)) ∧
      (sp.zero = false → sp.align = some .left → pre = 0) ∧
      (sp.zero = false → (sp.align = some .right ∨ sp.align = none) → post = 0) ∧
      (sp.zero = false → sp.align = some .center → (post = pre ∨ post = pre + 1)) := by
  rw [padNumeric_eq]
  obtain ⟨hz, hnz⟩ := padding_zero sp (body.length + (signOf sp nonneg).length)
  cases h : sp.zero with
  | true =>
    obtain ⟨h1, h2⟩ := hz h
    exact ⟨_, 0, fun _ => ⟨by rw [h1, h2]; exact List.append_nil _, rfl⟩, nofun, nofun, nofun, nofun⟩
  | false =>
    obtain ⟨hl, hr, hc⟩ := padding_align sp (body.length + (signOf sp nonneg).length) h
    exact ⟨_, _, nofun, fun _ => by rw [hnz h]; exact congrArg (· ++ _ ++ _) (List.append_nil _),
      fun _ => hl, fun _ => hr, fun _ => hc⟩

/-- split a displayed text at its LAST space -/
def splitLastSpace (t : Text) : Text × Text :=
  let r := t.reverse
  ((r.dropWhile (· != 32)).drop 1 |>.reverse, (r.takeWhile (· != 32)).reverse)

/-- round trip of the shape: the displayed text splits at the last space into the amount text
and the symbol, for every symbol without a space (as in the whole catalogue) -/
theorem fmt_splits (amt sym : Text) (h : ∀ c ∈ sym, c ≠ 32) :
    splitLastSpace (amt ++ [32] ++ sym) = (amt, sym) := by
  unfold splitLastSpace
  have hr : (amt ++ [32] ++ sym).reverse = sym.reverse ++ 32 :: amt.reverse := by simp
  have hall : ∀ c ∈ sym.reverse, (c != 32) = true := by
    intro c hc; simpa using h c (List.mem_reverse.mp hc)
  simp only [hr]
  rw [List.takeWhile_append_of_pos hall, List.dropWhile_append_of_pos hall]
  simp

/-- a rate displays as `term / per`; the per-multiple is omitted when it is one -/
theorem rate_fmt_per_one (ta ts pa ps : Text) (hts : ts ≠ []) (hps : ps ≠ []) :
    rateFmt ta ts pa ps true = ta ++ [32] ++ ts ++ [32, 47, 32] ++ ps ∧
    rateFmt ta ts pa ps false = ta ++ [32] ++ ts ++ [32, 47, 32] ++ pa ++ [32] ++ ps := by
  cases ts with
  | nil => exact absurd rfl hts
  | cons a as =>
    cases ps with
    | nil => exact absurd rfl hps
    | cons b bs =>
      refine ⟨rfl, ?_⟩
      show ta ++ [32] ++ a :: as ++ [32, 47, 32] ++ (pa ++ [32] ++ b :: bs) = _
      rw [← List.append_assoc, ← List.append_assoc]

theorem rate_fmt_unitless (ta pa : Text) (one : Bool) : rateFmt ta [] pa [] one = ta ++ [32, 47, 32] ++ pa := by
  simp [rateFmt]

/-- non-vacuity: `{:*^+12.1}` of -5.0 µm is `**-5.0 µm***` (12 characters although `µ` is two bytes) -/
example : qtyFmt { fill := some 42, align := some .center, plus := true, width := some 12, prec := some 1 }
    false [53, 46, 48] [181, 109] = [42, 42, 45, 53, 46, 48, 32, 181, 109, 42, 42, 42] := by decide

/-- KNOWN FINDING (kernel-checked witness): the decimal back-end clamps a precision above 18:
`{:.20}` of 0.1 shows 18 fractional digits (`0.` and 18 digits: 20 characters) -/
theorem dec_precision_clamped :
    (decAbsText (some 20) ⟨1, 1⟩).length = 20 ∧ decAbsText (some 20) ⟨1, 1⟩ = decAbsText (some 18) ⟨1, 1⟩ := by
  decide +kernel

end Qty.C15
