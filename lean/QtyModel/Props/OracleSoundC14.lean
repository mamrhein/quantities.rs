import QtyModel.Props.OracleSoundJudge
import QtyModel.Props.C14
import QtyModel.Lemmas.Approx
/- `OracleSound`, C14: the table-conversion oracle accepts the model. -/
namespace Qty.OracleSound

variable {A : Type} (R : Arith A)

set_option linter.unusedVariables false in -- `hfe`, `hoe` are not needed: `C14.tconv_sound`
/-- C14, table conversion (`Main.lean`, op `temp conv`,
`Approx.judge (some (Approx.add M (Approx.mul M (Approx.exact x) fApprox) oApprox)) (R.val z) …`):
`f`, `o` describe the published factor and offset, which the row's constants realise. -/
theorem judge_accepts_tconv {M : ErrModel} (L : Laws R M) (rows : List (ConvRow A)) (q : Q A Nat) (tgt : Nat)
    (h : q.unit ≠ tgt) (r : ConvRow A)
    (hfind : rows.find? (fun r => r.fromU == q.unit && r.toU == tgt) = some r)
    (x : Rat) (f o : Approx) (hx : R.val q.amount = some x)
    (hf : Realises R r.factor f) (ho : Realises R r.offset o) (hfe : 0 ≤ f.err) (hoe : 0 ≤ o.err)
    (res : Q A Nat) (hres : tconv R rows q tgt = .ok (some res)) (why w : String) :
    Approx.judge (some (Approx.add M (Approx.mul M (Approx.exact x) f) o)) (R.val res.amount) why
      ≠ .fail w := by
  refine judge_accepts_realised R _ res.amount why ?_ w
  rintro x' ⟨⟩ hok
  obtain ⟨res', hres', -, hreal⟩ := C14.tconv_sound R L h hfind (exact_sound R hx) hf ho hok
  cases hres.symm.trans hres'
  exact hreal

end Qty.OracleSound
