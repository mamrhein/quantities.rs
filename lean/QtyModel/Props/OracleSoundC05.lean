import QtyModel.Props.OracleSoundBase
import QtyModel.Props.C05
import QtyModel.Lemmas.Basic
/- `OracleSound`, C05: the unit `_fit` chooses. -/
namespace Qty.OracleSound

variable {A : Type} (R : Arith A)

/-- `Oracle.c05fit` on the output of `fit`, for ANY magnitude `mag` shown to the oracle that is
within `tol` of the exact value `xv` of the fitted amount.  (The second call site of `Main.lean`,
ops `dmulu`/`ddivu`, shows the oracle `mag := zv * sw` computed from the RESULT and a tolerance
`tol := 8 * (…)`; this statement covers it whenever `|zv * sw - xv| ≤ tol`, which is a fact about
the particular rounding model, not a consequence of `Laws`.) -/
theorem c05fit_accepts_model_near {M : ErrModel} (L : Laws R M) (T : QT A Nat)
    (hI : T.fitIdentity = none)
    (sc : Nat → Rat) (hsc : ∀ u ∈ eligible T, R.val (T.scale u) = some (sc u))
    (hsorted : (eligible T).Pairwise (fun u v => sc u ≤ sc v))
    (x : A) (xv : Rat) (hx : R.val x = some xv) (r : Q A Nat) (h : fit R T x = .ok r)
    (sw : Rat) (hsw : R.val (T.scale r.unit) = some sw)
    (mag tol : Rat) (hnear : ratAbs (mag - xv) ≤ tol) (w : String) :
    Oracle.c05fit ((eligible T).filterMap (fun u => R.val (T.scale u)))
      ((eligible T).contains r.unit) sw mag tol ≠ .fail w := by
  revert w
  obtain ⟨hmem, hspec⟩ := C05.fit_spec R L T hI sc hsc hsorted x xv hx r h
  cases hsw.symm.trans (hsc r.unit hmem)
  rw [ratAbs_eq_abs] at hnear
  obtain ⟨hlo, hhi⟩ := abs_le.mp hnear
  have hlo : xv ≤ mag + tol := neg_le_sub_iff_le_add.mp hlo
  have hhi : mag - tol ≤ xv := sub_le_comm.mp hhi
  -- the scales shown to the oracle are the `sc v` of the eligible units `v`
  have hE : ∀ s ∈ (eligible T).filterMap (fun u => R.val (T.scale u)), ∃ v ∈ eligible T, s = sc v := by
    intro s hs
    obtain ⟨v, hv, hvs⟩ := List.mem_filterMap.mp hs
    exact ⟨v, hv, Option.some.inj ((hsc v hv).symm.trans hvs).symm⟩
  refine NoFail.and (.check _ (List.contains_iff_mem.mpr hmem)) (NoFail.and (.check _ ?_) (.check _ ?_))
  · rw [List.all_eq_true]
    intro s hs
    obtain ⟨v, hv, rfl⟩ := hE s hs
    simp only [Bool.not_eq_true', Bool.and_eq_false_iff, decide_eq_false_iff_not, not_lt, not_le]
    rcases hspec with ⟨-, hmax⟩ | ⟨hall, -⟩
    · by_cases hc : sc v ≤ mag - tol
      · exact .inl (hmax v hv (hc.trans hhi))
      · exact .inr (not_le.mp hc)
    · exact .inr (hhi.trans_lt (hall v hv))
  · rw [Bool.or_eq_true, List.all_eq_true]
    rcases hspec with ⟨hle, -⟩ | ⟨-, hmin⟩
    · exact .inr (decide_eq_true (hle.trans hlo))
    · refine .inl fun s hs => ?_
      obtain ⟨v, hv, rfl⟩ := hE s hs
      exact decide_eq_true (hmin v hv)

/-- **C05**, any table (see `c05fit_accepts_model_driver` for the literal form of the driver's call):
the oracle accepts the output of `fit` for every table whose eligible units have finite scales listed
in non-decreasing order (C09), for the tolerance `0` the driver passes and for every other tolerance
`tol ≥ 0`. -/
theorem c05fit_accepts_model {M : ErrModel} (L : Laws R M) (T : QT A Nat)
    (hI : T.fitIdentity = none)
    (sc : Nat → Rat) (hsc : ∀ u ∈ eligible T, R.val (T.scale u) = some (sc u))
    (hsorted : (eligible T).Pairwise (fun u v => sc u ≤ sc v))
    (x : A) (xv : Rat) (hx : R.val x = some xv) (r : Q A Nat) (h : fit R T x = .ok r)
    (sw : Rat) (hsw : R.val (T.scale r.unit) = some sw)
    (tol : Rat) (htol : 0 ≤ tol) (w : String) :
    Oracle.c05fit ((eligible T).filterMap (fun u => R.val (T.scale u)))
      ((eligible T).contains r.unit) sw xv tol ≠ .fail w :=
  c05fit_accepts_model_near R L T hI sc hsc hsorted x xv hx r h sw hsw xv tol
    (by rwa [sub_self, ratAbs_eq_abs, abs_zero]) w

/-- **C05**, literally the call of `Main.lean`, op `fit`:
`Oracle.c05fit E wElig sw x 0` with `E := (eligible (T.qt R)).filterMap (fun u => R.val (T.scaleOf R u))`,
`wElig := (eligible (T.qt R)).contains w || T.isAmount`, evaluated in the branch `T.isAmount = false`
after `R.val a = some x` and `R.val (T.scaleOf R w) = some sw`; `w` is the unit of the model's `fit`. -/
theorem c05fit_accepts_model_driver {M : ErrModel} (L : Laws R M) (T : RTable A)
    (hA : T.isAmount = false)
    (sc : Nat → Rat) (hsc : ∀ u ∈ eligible (T.qt R), R.val (T.scaleOf R u) = some (sc u))
    (hsorted : (eligible (T.qt R)).Pairwise (fun u v => sc u ≤ sc v))
    (a : A) (x : Rat) (hx : R.val a = some x) (r : Q A Nat) (h : fit R (T.qt R) a = .ok r)
    (sw : Rat) (hsw : R.val (T.scaleOf R r.unit) = some sw) (w : String) :
    Oracle.c05fit ((eligible (T.qt R)).filterMap (fun u => R.val (T.scaleOf R u)))
      ((eligible (T.qt R)).contains r.unit || T.isAmount) sw x 0 ≠ .fail w := by
  rw [hA, Bool.or_false]
  exact c05fit_accepts_model R L (T.qt R) (by simp [RTable.qt, hA]) sc hsc hsorted a x hx r h sw hsw
    0 (le_refl _) w

end Qty.OracleSound
