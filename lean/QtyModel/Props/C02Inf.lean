import QtyModel.Props.C02
import QtyModel.Lemmas.F64Inf
import QtyModel.Lemmas.F64Laws
import QtyModel.Lemmas.Res
import QtyModel.Lemmas.Basic
/-
  C02 — operand-order independence of cross-unit `==` / `partial_cmp` for ALL non-NaN binary64
  amounts, `±inf` included (`cmp_symm` of `Props/C02.lean` asks for finite amounts).  The only
  case not covered there by `cmp_symm_same_unit` / `cmp_symm_diff_scale` is two different units of
  one scale: the two orders convert different operands, by a ratio of exact value 1, and `1 · x`
  compares like `x` for every non-NaN `x` (`F64.one_mul_pcmp_right`).
-/
namespace Qty.C02

/-- `hwa`/`hwb` say that the datum denotes a binary64 value at all (`F64.wf`: `m < 2^53`,
`-1074 ≤ e ≤ 971`; always true for `inf`).  They are needed because the model type `F64` also
contains raw data `fin s m e` that are no binary64 values, on which `F64.mul` rounds while
`F64.pcmp` does not: see `f64_cmp_symm_fails_for_ill_formed_datum` below.  This is a quirk of
the model's carrier type, not of the Rust code (every Rust `f64` is well-formed).

Nothing is asked of the scales beyond being finite: for two different units whose scales are
both zero the ratio is `0/0 = NaN` in both orders. -/
theorem f64_cmp_symm_of_wf {U : Type} [DecidableEq U] (T : QT F64 U) (a b : Q F64 U)
    (sa sb : Rat)
    (hsa : F64.arith.val (T.scale a.unit) = some sa)
    (hsb : F64.arith.val (T.scale b.unit) = some sb)
    (ha : a.amount ≠ F64.nan) (hb : b.amount ≠ F64.nan)
    (hwa : F64.wf a.amount = true) (hwb : F64.wf b.amount = true) :
    hrPcmp F64.arith T b a = (hrPcmp F64.arith T a b).map Oracle.flipOrd ∧
    hrEq F64.arith T b a = hrEq F64.arith T a b := by
  by_cases hu : a.unit = b.unit
  · exact cmp_symm_same_unit F64.arith T F64.laws a b hu
  rcases ne_or_eq sa sb with hne | rfl
  · exact cmp_symm_diff_scale F64.arith T F64.laws a b sa sb hsa hsb hne
  -- two different units with the same scale: each order multiplies its right operand by the
  -- ratio of the two scales
  refine symm_of_flip F64.arith T F64.laws
    (c := (a.amount, F64.mul (F64.div (T.scale b.unit) (T.scale a.unit)) b.amount))
    (c' := (b.amount, F64.mul (F64.div (T.scale a.unit) (T.scale b.unit)) a.amount)) ?_ ?_ ?_
  · rw [cmpPair_of_le ((F64.laws.le_iff hsa hsb).mpr le_rfl), equivAmount_of_ne _ _ (Ne.symm hu)]
    rfl
  · rw [cmpPair_of_le ((F64.laws.le_iff hsb hsa).mpr le_rfl), equivAmount_of_ne _ _ hu]
    rfl
  show F64.pcmp _ _ = Oracle.flipOrd (F64.pcmp _ _)
  by_cases hs0 : sa = 0
  · -- both scales are zero: the ratio is NaN in both orders, nothing compares
    subst hs0
    obtain ⟨s, m, e, hA, -, -, -, hA0⟩ := F64.val_some hsa
    obtain ⟨t, n, f, hB, -, -, -, hB0⟩ := F64.val_some hsb
    obtain rfl : m = 0 := F64.tr_eq_zero.mp hA0.symm
    obtain rfl : n = 0 := F64.tr_eq_zero.mp hB0.symm
    rw [hA, hB, F64.div_zero_zero, F64.div_zero_zero, F64.nan_mul, F64.nan_mul,
      F64.pcmp_nan_right, F64.pcmp_nan_right]
    rfl
  · -- the ratio has exact value 1 in both orders; `1 · x` compares like `x`
    obtain ⟨c1, hd1, hc1⟩ := F64.laws.div_self_val _ _ sa hsb hsa hs0
    obtain ⟨c2, hd2, hc2⟩ := F64.laws.div_self_val _ _ sa hsa hsb hs0
    rw [Except.ok.inj hd1, Except.ok.inj hd2, F64.one_mul_pcmp_right hc1 hb hwb,
      F64.one_mul_pcmp_right hc2 ha hwa]
    exact F64.pcmp_flip a.amount b.amount

set_option linter.unusedVariables false in
/-- `f64_cmp_symm_of_wf` under the additional hypotheses `sa ≠ 0`, `sb ≠ 0`, which it does not need. -/
theorem f64_cmp_symm_nonnan {U : Type} [DecidableEq U] (T : QT F64 U) (a b : Q F64 U)
    (sa sb : Rat)
    (hsa : F64.arith.val (T.scale a.unit) = some sa)
    (hsb : F64.arith.val (T.scale b.unit) = some sb)
    (hsa0 : sa ≠ 0) (hsb0 : sb ≠ 0)
    (ha : a.amount ≠ F64.nan) (hb : b.amount ≠ F64.nan)
    (hwa : F64.wf a.amount = true) (hwb : F64.wf b.amount = true) :
    hrPcmp F64.arith T b a = (hrPcmp F64.arith T a b).map Oracle.flipOrd ∧
    hrEq F64.arith T b a = hrEq F64.arith T a b :=
  f64_cmp_symm_of_wf T a b sa sb hsa hsb ha hb hwa hwb

/-- binary64 `1000.0` -/
def f1000 : F64 := .fin false (1000 * 2 ^ 43) (-43)
/-- binary64 `5.0` -/
def f5 : F64 := .fin false (5 * 2 ^ 50) (-50)

/-- three units: `0` = metre (scale 1), `1` = kilometre (scale 1000), `2` = a second unit of
scale 1 (a different unit with the same scale as the metre) -/
def exT : QT F64 Nat :=
  { units := [0, 1, 2], scale := fun u => if u = 1 then f1000 else F64.one,
    hasPrefix := fun _ => false, ref := 0 }

/-- Why `hwa`/`hwb` cannot be dropped.  `fin false (2^53+1) 0` is a datum of the model type
that is not a binary64 value (53 bits hold at most `2^53-1`).  With two different units of
the same scale, `x(unit 0)` against `2^53(unit 2)`: in one order the ill-formed datum is
compared as it is (`2^53+1 > 2^53`), in the other order it is first multiplied by the ratio
`1.0`, which rounds it to `2^53` (`2^53 == 2^53`).  The amount is neither NaN nor infinite. -/
theorem f64_cmp_symm_fails_for_ill_formed_datum :
    let x : F64 := .fin false (2 ^ 53 + 1) 0
    let y : F64 := .fin false (2 ^ 52) 1
    x ≠ F64.nan ∧ y ≠ F64.nan ∧ F64.wf x = false ∧ F64.wf y = true ∧
    hrPcmp F64.arith exT ⟨x, 0⟩ ⟨y, 2⟩ = .ok (some .gt) ∧
    hrPcmp F64.arith exT ⟨y, 2⟩ ⟨x, 0⟩ = .ok (some .eq) ∧
    hrEq F64.arith exT ⟨x, 0⟩ ⟨y, 2⟩ = .ok false ∧
    hrEq F64.arith exT ⟨y, 2⟩ ⟨x, 0⟩ = .ok true := by
  decide +kernel

/-- non-vacuity, units of different scale: `+inf m` against `5 km` -/
example :
    hrPcmp F64.arith exT ⟨.inf false, 0⟩ ⟨f5, 1⟩ = .ok (some .gt) ∧
    hrPcmp F64.arith exT ⟨f5, 1⟩ ⟨.inf false, 0⟩ = .ok (some .lt) ∧
    hrEq F64.arith exT ⟨.inf false, 0⟩ ⟨f5, 1⟩ = .ok false ∧
    hrEq F64.arith exT ⟨f5, 1⟩ ⟨.inf false, 0⟩ = .ok false := by
  decide +kernel

/-- the theorem instantiated on that pair (all hypotheses hold) -/
example :
    hrPcmp F64.arith exT ⟨f5, 1⟩ ⟨.inf false, 0⟩
      = (hrPcmp F64.arith exT ⟨.inf false, 0⟩ ⟨f5, 1⟩).map Oracle.flipOrd ∧
    hrEq F64.arith exT ⟨f5, 1⟩ ⟨.inf false, 0⟩ = hrEq F64.arith exT ⟨.inf false, 0⟩ ⟨f5, 1⟩ :=
  f64_cmp_symm_nonnan exT ⟨.inf false, 0⟩ ⟨f5, 1⟩ 1 1000
    (by decide +kernel) (by decide +kernel) (by decide) (by decide)
    (by decide) (by decide) (by decide) (by decide)

/-- non-vacuity, two different units of the SAME scale, both amounts infinite or one finite:
`-inf(unit 0)` vs `5(unit 2)`, `+inf(unit 0)` vs `+inf(unit 2)` -/
example :
    hrPcmp F64.arith exT ⟨.inf true, 0⟩ ⟨f5, 2⟩ = .ok (some .lt) ∧
    hrPcmp F64.arith exT ⟨f5, 2⟩ ⟨.inf true, 0⟩ = .ok (some .gt) ∧
    hrPcmp F64.arith exT ⟨.inf false, 0⟩ ⟨.inf false, 2⟩ = .ok (some .eq) ∧
    hrEq F64.arith exT ⟨.inf false, 2⟩ ⟨.inf false, 0⟩ = .ok true := by
  decide +kernel

example :
    hrPcmp F64.arith exT ⟨f5, 2⟩ ⟨.inf true, 0⟩
      = (hrPcmp F64.arith exT ⟨.inf true, 0⟩ ⟨f5, 2⟩).map Oracle.flipOrd ∧
    hrEq F64.arith exT ⟨f5, 2⟩ ⟨.inf true, 0⟩ = hrEq F64.arith exT ⟨.inf true, 0⟩ ⟨f5, 2⟩ :=
  f64_cmp_symm_nonnan exT ⟨.inf true, 0⟩ ⟨f5, 2⟩ 1 1
    (by decide +kernel) (by decide +kernel) (by decide) (by decide)
    (by decide) (by decide) (by decide) (by decide)

end Qty.C02
