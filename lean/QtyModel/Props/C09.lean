import QtyModel.Lemmas.MacroFront
import QtyModel.Ops
import QtyModel.Generated.Catalogue
import QtyModel.Generated.Astro
import QtyModel.Generated.Synth
import QtyModel.Lemmas.ListFind
/-
  C09 — Unit registry is complete, ordered and invertible.

  The general statements hold for EVERY definition the model of the macro accepts (any number
  of units); the statements about the generated catalogue rest on one kernel evaluation of the
  whole regenerated tables (`catalogue_eval`).
-/
namespace Qty.C09
open Qty.MacroFront

/-- the iterated units are the declared units (reference unit included), stably sorted -/
theorem iter_is_sorted_declaration (it : RawItem) (d : QtyDef) (h : expand it = .ok d) :
    ∃ dc, declared it = .ok dc ∧ d.units = isort (orderOf dc) dc.units ∧ d.refIdent = dc.refIdent := by
  obtain ⟨dc, dv, hd, -, rfl⟩ := expand_ok_inv it d h
  exact ⟨dc, hd, rfl, rfl⟩

/-- each declared unit is yielded exactly once -/
theorem iter_perm (it : RawItem) (d : QtyDef) (h : expand it = .ok d) :
    ∃ dc, declared it = .ok dc ∧ d.units.Perm dc.units := by
  obtain ⟨dc, h1, h2, _⟩ := iter_is_sorted_declaration it d h
  exact ⟨dc, h1, h2 ▸ isort_perm _ _⟩

/-- non-decreasing in the sort key, for any total and transitive key order -/
theorem iter_sorted (it : RawItem) (d : QtyDef) (h : expand it = .ok d)
    (le : UnitDef → UnitDef → Bool)
    (hle : ∀ dc, declared it = .ok dc → orderOf dc = le)
    (htot : ∀ a b, le a b = true ∨ le b a = true)
    (htr : ∀ a b c, le a b = true → le b c = true → le a c = true) :
    d.units.Pairwise (fun x y => le x y = true) := by
  obtain ⟨dc, h1, h2, _⟩ := iter_is_sorted_declaration it d h
  rw [h2, hle dc h1]
  exact isort_sorted_on le (fun _ => True) (fun a b _ _ => htot a b) (fun a b c _ _ _ => htr a b c) _
    fun _ _ => trivial

set_option linter.unusedVariables false in
/-- declaration order breaks ties: restricted to any class `p` of units that the order cannot
separate from each other, the iteration order is the declaration order (this holds of any `le`:
`htot` and `htr` are not used) -/
theorem isort_stable (le : UnitDef → UnitDef → Bool)
    (htot : ∀ a b, le a b = true ∨ le b a = true)
    (htr : ∀ a b c, le a b = true → le b c = true → le a c = true)
    (p : UnitDef → Bool) (hp : ∀ a b, p a = true → p b = true → le a b = true) (l : List UnitDef) :
    (isort le l).filter p = l.filter p :=
  isort_filter le p l (List.pairwise_of_forall hp)

/-- the reference unit comes first among the units whose key equals its own (scale one):
it is declared first (`insert(0, ref_unit_def)`) and the sort is stable -/
theorem ref_first_among_equal_keys (le : UnitDef → UnitDef → Bool)
    (htot : ∀ a b, le a b = true ∨ le b a = true)
    (htr : ∀ a b c, le a b = true → le b c = true → le a c = true)
    (rd : UnitDef) (us : List UnitDef) :
    ((isort le (rd :: us)).filter (fun u => le u rd && le rd u)).head? = some rd := by
  rw [isort_filter le _ _ (List.pairwise_of_forall fun a b ha hb =>
    htr _ _ _ (Bool.and_eq_true_iff.mp ha).1 (Bool.and_eq_true_iff.mp hb).2)]
  simp [(htot rd rd).elim id id]

variable {A : Type} (R : Arith A)

/-- lookup by scale returns the FIRST unit (in iteration order) with that scale, nothing otherwise -/
theorem from_scale_first (T : QT A Nat) (x : A) (u : Nat) (h : unitFromScale R T x = some u) :
    ∃ pre post, T.units = pre ++ u :: post ∧ R.beq (T.scale u) x = true ∧
      ∀ v ∈ pre, R.beq (T.scale v) x = false := by
  obtain ⟨hu, pre, post, e, hp⟩ := List.find?_eq_some_iff_append.mp h
  exact ⟨pre, post, e, hu, by simpa using hp⟩

theorem from_scale_none (T : QT A Nat) (x : A) :
    unitFromScale R T x = none ↔ ∀ v ∈ T.units, R.beq (T.scale v) x = false := by
  simp [unitFromScale]

/-- `Unit::from_symbol` / `Quantity::unit_from_symbol`: `iter().find(|u| u.symbol() == symbol)` -/
def fromSymbol (units : List UnitDef) (s : Text) : Option UnitDef :=
  units.find? (fun u => u.symbol == s)

theorem from_symbol_first (units : List UnitDef) (s : Text) (u : UnitDef)
    (h : fromSymbol units s = some u) :
    ∃ pre post, units = pre ++ u :: post ∧ u.symbol = s ∧ ∀ v ∈ pre, v.symbol ≠ s := by
  obtain ⟨hu, pre, post, e, hp⟩ := List.find?_eq_some_iff_append.mp h
  exact ⟨pre, post, e, by simpa using hu, by simpa using hp⟩

theorem from_symbol_none (units : List UnitDef) (s : Text) :
    fromSymbol units s = none ↔ ∀ v ∈ units, v.symbol ≠ s := by
  simp [fromSymbol]

/-- where symbols are unique, looking a unit's symbol up returns the unit itself -/
theorem from_symbol_unique (units : List UnitDef) (hn : (units.map (·.symbol)).Nodup)
    (u : UnitDef) (hu : u ∈ units) : fromSymbol units u.symbol = some u :=
  (find_key_iff hn u.symbol u).mpr ⟨hu, rfl⟩

theorem from_symbol_mem (units : List UnitDef) (u : UnitDef) (hu : u ∈ units) :
    ∃ v pre post, fromSymbol units u.symbol = some v ∧
      units = pre ++ v :: post ∧ v.symbol = u.symbol ∧ ∀ w ∈ pre, w.symbol ≠ u.symbol := by
  cases h : fromSymbol units u.symbol with
  | none => exact absurd rfl ((from_symbol_none units u.symbol).mp h u hu)
  | some v =>
    obtain ⟨pre, post, e, hs, hp⟩ := from_symbol_first units u.symbol v h
    exact ⟨v, pre, post, rfl, e, hs, hp⟩

/-- where the unit is the ONLY unit of the list with its symbol (what the driver's `symUnique`
tests), looking the symbol up returns it -/
theorem from_symbol_of_only (units : List UnitDef) (u : UnitDef) (hu : u ∈ units)
    (hon : ∀ v ∈ units, v.symbol = u.symbol → v = u) : fromSymbol units u.symbol = some u := by
  cases h : fromSymbol units u.symbol with
  | none => exact absurd rfl ((from_symbol_none units u.symbol).mp h u hu)
  | some v => rw [hon v (List.mem_of_find?_eq_some h) (by simpa using List.find?_some h)]

/-- the regenerated catalogue: main crate, astronomical crate, synthetic definitions of the harness -/
def allItems : List RawItem := Gen.Catalogue.items ++ Gen.Astro.items ++ Gen.Synth.items

def litLe (a b : UnitDef) : Bool :=
  match a.scale, b.scale with
  | some x, some y => decide (x.value ≤ y.value)
  | _, _ => false

/-- checker for one definition: expands; symbols unique (if `uniqueSymbols`); variant identifiers
unique; constant names unique; without a reference unit: sorted by name; with one: exactly one
unit is the reference unit, it has scale literal value one, and the iteration order is
non-decreasing in the exact literal value -/
def itemOk (uniqueSymbols : Bool) (it : RawItem) : Bool :=
  match expand it with
  | .error _ => false
  | .ok d =>
    (!uniqueSymbols || decide ((d.units.map (·.symbol)).Nodup)) && decide ((d.units.map (·.ident)).Nodup) &&
    decide ((d.units.map (·.constName)).Nodup) &&
    (match d.refIdent with
     | none => decide (d.units.Pairwise (fun a b => textLe a.name b.name = true))
     | some r =>
       (d.units.filter (fun u => u.ident == r)).length == 1 &&
       d.units.all (fun u => if u.ident == r then (u.scale.map (·.value)) == some 1 else true) &&
       decide (d.units.Pairwise (fun a b => litLe a b = true)))

/-- the one fact other files read off `itemOk` -/
theorem itemOk_ident_nodup {b : Bool} {it : RawItem} {d : QtyDef} (hb : itemOk b it = true)
    (h : expand it = .ok d) : (d.units.map (·.ident)).Nodup := by
  unfold itemOk at hb
  rw [h] at hb
  simp only [Bool.and_eq_true, decide_eq_true_eq] at hb
  exact hb.1.1.2

end Qty.C09

namespace Qty.Bridge
open Qty.MacroFront

/-- `f` holds of the expansion of `it` (and `it` does expand) -/
def expandsTo (f : QtyDef → Bool) (it : RawItem) : Bool :=
  match expand it with
  | .ok d => f d
  | .error _ => false

/-- the `f64` sort key never orders two units against the exact order of their scale literals
(decidable; false e.g. for two literals closer than `f64` resolution declared in descending order,
see `C09.f64_key_not_faithful_for_close_decimals` and `Bridge.fit_spec_dec_needs_faithful`) -/
def KeysFaithful (d : QtyDef) : Bool :=
  d.units.all (fun a => d.units.all (fun b => match a.scale, b.scale with
    | some x, some y => !keyLe a b || decide (x.value ≤ y.value)
    | _, _ => true))

theorem expandsTo_spec (f : QtyDef → Bool) (it : RawItem) (hf : expandsTo f it = true) :
    ∃ d, expand it = .ok d ∧ f d = true := by
  unfold expandsTo at hf
  split at hf
  · next d he => exact ⟨d, he, hf⟩
  · cases hf

theorem expandsTo_of_mem (f : QtyDef → Bool) (items : List RawItem)
    (hall : items.all (expandsTo f) = true) (it : RawItem) (hit : it ∈ items) (d : QtyDef)
    (h : expand it = .ok d) : f d = true := by
  obtain ⟨d', h', hf⟩ := expandsTo_spec f it (List.all_eq_true.mp hall it hit)
  cases h.symm.trans h'
  exact hf

end Qty.Bridge

namespace Qty.C09
open Qty.MacroFront

/-- both checkers in one evaluation, so that the kernel expands and sorts each definition once -/
theorem catalogue_eval :
    (Gen.Catalogue.items ++ Gen.Astro.items).all (fun it => itemOk true it && Bridge.expandsTo Bridge.KeysFaithful it) = true ∧
    Gen.Synth.items.all (fun it => itemOk false it && Bridge.expandsTo Bridge.KeysFaithful it) = true := by
  constructor <;> decide +kernel

/-- the predefined quantities (main crate, astronomical crate) also have unique symbols; the synthetic
definitions of the harness deliberately include a type with two units of one symbol -/
theorem catalogue_registry_ok :
    (Gen.Catalogue.items ++ Gen.Astro.items).all (itemOk true) = true ∧ Gen.Synth.items.all (itemOk false) = true :=
  ⟨(all_and catalogue_eval.1).1, (all_and catalogue_eval.2).1⟩

theorem catalogue_itemOk {it : RawItem} (hit : it ∈ allItems) : ∃ b, itemOk b it = true := by
  rcases List.mem_append.mp hit with hit | hit
  · exact ⟨_, List.all_eq_true.mp catalogue_registry_ok.1 it hit⟩
  · exact ⟨_, List.all_eq_true.mp catalogue_registry_ok.2 it hit⟩

theorem catalogue_keysFaithful : allItems.all (Bridge.expandsTo Bridge.KeysFaithful) = true := by
  rw [allItems, List.all_append, (all_and catalogue_eval.1).2, (all_and catalogue_eval.2).2]
  rfl

theorem keyLe_of_sortKey_eq {u v : UnitDef} (h : sortKey u = sortKey v) : keyLe u v = true := by
  unfold keyLe
  rw [h]
  cases sortKey v with
  | nan => rfl
  | inf s => simp [F64.pcmp]
  | fin s m e => simp [F64.pcmp, F64.toRat, ratCmp]

/-- no two declared scale literals of one catalogue quantity share an `f64` sort key unless they
have the same exact value: the `f64` order used by the macro is faithful to the exact
(decimal) order for every predefined quantity -/
theorem catalogue_keys_faithful :
    allItems.all (fun it => match expand it with
      | .error _ => false
      | .ok d => d.units.all (fun a => d.units.all (fun b => match a.scale, b.scale with
          | some x, some y => (keyLe a b && keyLe b a) == (x.value == y.value)
          | _, _ => true))) = true := by
  refine List.all_eq_true.mpr fun it hit => ?_
  obtain ⟨d, hd, h⟩ := Bridge.expandsTo_spec _ it (List.all_eq_true.mp catalogue_keysFaithful it hit)
  unfold Bridge.KeysFaithful at h
  simp only [hd, List.all_eq_true] at h ⊢
  intro a ha b hb
  have hab := h a ha b hb
  have hba := h b hb a ha
  cases hx : a.scale with
  | none => rfl
  | some x =>
    cases hy : b.scale with
    | none => rfl
    | some y =>
      simp only [hx, hy, Bool.or_eq_true, Bool.not_eq_true', decide_eq_true_eq] at hab hba ⊢
      by_cases hv : x.value = y.value
      · -- equal values have the same key
        have hk : sortKey a = sortKey b := by simp only [sortKey, hx, hy, hv]
        rw [keyLe_of_sortKey_eq hk, keyLe_of_sortKey_eq hk.symm, hv]
        simp
      · -- the key orders the two units one way only, the way of the values
        have : (keyLe a b && keyLe b a) = false := by
          rw [Bool.and_eq_false_iff]
          rcases hab with h1 | h1
          · exact .inl h1
          · exact .inr (hba.resolve_right fun h2 => hv (Rat.le_antisymm h1 h2))
        rw [this, beq_false_of_ne hv]
        rfl

/-- KNOWN LIMIT (kernel-checked witness): the sort key is `f64` even when the amount type is
decimal, so two decimal literals closer than `f64` resolution are ordered by declaration,
not by value: `1.00000000000000002` declared before `1.00000000000000001` stays before it. -/
theorem f64_key_not_faithful_for_close_decimals :
    let x : UnitDef := { ident := [88], name := [88], symbol := [120], pfx := none, doc := none
                         scale := some { digits := 100000000000000002, nfrac := 17, isFloat := true } }
    let y : UnitDef := { ident := [89], name := [89], symbol := [121], pfx := none, doc := none
                         scale := some { digits := 100000000000000001, nfrac := 17, isFloat := true } }
    isort keyLe [x, y] = [x, y] := by decide +kernel

/-- the constant generated for a unit is `UpperSnake(UpperCamel(identifier))`
(`UnitDef.constName`): `Meter_per_Second_squared` ↦ `METER_PER_SECOND_SQUARED` -/
example : Case.upperSnake (Case.upperCamel (Text.ofString "Meter_per_Second_squared"))
    = Text.ofString "METER_PER_SECOND_SQUARED" := by decide +kernel

/-- the reference unit `R` (`1.0`) stays before `B` (integer literal `1`, the same key), `A`
(`0.5`) comes first -/
example : (isort keyLe
    [{ ident := [82], name := [82], symbol := [114], pfx := none, doc := none, scale := some litOne },
     { ident := [65], name := [65], symbol := [97], pfx := none, doc := none, scale := some { digits := 5, nfrac := 1, isFloat := true } },
     { ident := [66], name := [66], symbol := [98], pfx := none, doc := none, scale := some { digits := 1 } }]).map (·.ident)
    = [[65], [82], [66]] := by decide +kernel

end Qty.C09
