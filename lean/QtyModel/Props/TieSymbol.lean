import QtyModel.Props.C09
import QtyModel.Generated.Algos
/-
  Tie between code and model for the symbol lookups `Unit::from_symbol` and
  `Quantity::unit_from_symbol` (bodies re-emitted from src/lib.rs on every run).
-/
namespace Qty.AlgoTie
open Qty.Gen.Algos

variable {A : Type} (R : Arith A)

theorem from_symbol_eq (units : List UnitDef) (s : Text) :
    Gen.Algos.Unit.from_symbol R ⟨units, (·.symbol)⟩ s = C09.fromSymbol units s := rfl

theorem unit_from_symbol_eq (units : List UnitDef) (s : Text) :
    Gen.Algos.Quantity.unit_from_symbol R ⟨units, (·.symbol)⟩ s = C09.fromSymbol units s := rfl

end Qty.AlgoTie
