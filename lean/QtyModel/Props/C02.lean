import QtyModel.Lemmas.Conv
import QtyModel.Lemmas.Res
import QtyModel.Lemmas.Basic
/-
  C02 — Cross-unit comparison is physically correct and order-independent.

  The theorems describe the code AFTER the repair
  "fix: make cross-unit == and partial_cmp independent of operand order"
  (values in different units are compared in the unit with the smaller scale).
  For the code before the repair `cmp_symm` is false: see
  `cmp_symm_fails_for_old_code` below (a concrete witness, evaluated by the kernel).
-/
namespace Qty.C02

variable {A U : Type} [DecidableEq U] (R : Arith A) (T : QT A U)

theorem pcmp_same_unit (a b : Q A U) (h : a.unit = b.unit) :
    hrPcmp R T a b = .ok (R.pcmp a.amount b.amount) := if_pos h

theorem eq_same_unit (a b : Q A U) (h : a.unit = b.unit) :
    hrEq R T a b = .ok (R.beq a.amount b.amount) := by
  rw [hrEq_eq, cmpPair_same_unit R T h]; rfl

/-- `partial_cmp` reports `Equal` exactly when `==` holds, for all values, NaN included -/
theorem eq_iff_pcmp_eq {M : ErrModel} (L : Laws R M) (a b : Q A U) (e : Bool) (p : Option Ordering)
    (he : hrEq R T a b = .ok e) (hp : hrPcmp R T a b = .ok p) : e = (p == some .eq) := by
  rw [hrEq_eq, Res.map_eq_ok] at he
  rw [hrPcmp_eq, Res.map_eq_ok] at hp
  obtain ⟨c, hc, rfl⟩ := he
  obtain ⟨c', hc', rfl⟩ := hp
  cases hc.symm.trans hc'
  exact L.beq_pcmp _ _

/-- the six operators are derived from `eq`/`partial_cmp` as Rust derives them -/
theorem operators_derived (e : Bool) (p : Option Ordering) :
    (Oracle.CmpObs.ofPcmp e p).lt = (p == some .lt) ∧
    (Oracle.CmpObs.ofPcmp e p).gt = (p == some .gt) ∧
    (Oracle.CmpObs.ofPcmp e p).le = (p == some .lt || p == some .eq) ∧
    (Oracle.CmpObs.ofPcmp e p).ge = (p == some .gt || p == some .eq) ∧
    (Oracle.CmpObs.ofPcmp e p).ne = !e := ⟨rfl, rfl, rfl, rfl, rfl⟩

/-! ### answers do not depend on operand order

Swapping the operands swaps the pair that is compared: structurally when the units are equal or
of different scale, where both orders convert the same operand (`symm_of_swap`); for different
units of one scale each order converts its own right operand, and the two pairs only compare
alike (`symm_of_flip`). -/

theorem symm_of_flip {M : ErrModel} (L : Laws R M) {a b : Q A U} {c c' : A × A}
    (h1 : cmpPair R T a b = .ok c) (h2 : cmpPair R T b a = .ok c')
    (h : R.pcmp c'.1 c'.2 = Oracle.flipOrd (R.pcmp c.1 c.2)) :
    hrPcmp R T b a = (hrPcmp R T a b).map Oracle.flipOrd ∧ hrEq R T b a = hrEq R T a b := by
  rw [hrPcmp_eq, hrPcmp_eq, hrEq_eq, hrEq_eq, h1, h2]
  simp only [Res.map_ok]
  rw [L.beq_pcmp, L.beq_pcmp, h, flipOrd_beq_eq]
  exact ⟨rfl, rfl⟩

theorem symm_of_swap {M : ErrModel} (L : Laws R M) {a b : Q A U}
    (h : cmpPair R T b a = (cmpPair R T a b).map Prod.swap) :
    hrPcmp R T b a = (hrPcmp R T a b).map Oracle.flipOrd ∧ hrEq R T b a = hrEq R T a b := by
  cases hc : cmpPair R T a b with
  | error e => rw [hrPcmp_eq, hrPcmp_eq, hrEq_eq, hrEq_eq, h, hc]; exact ⟨rfl, rfl⟩
  | ok c => exact symm_of_flip R T L hc (h.trans (by rw [hc]; rfl)) (L.pcmp_flip c.1 c.2)

/-- equal units: the amount type's own comparison, whose symmetry is a law for all values -/
theorem cmp_symm_same_unit {M : ErrModel} (L : Laws R M) (a b : Q A U) (hu : a.unit = b.unit) :
    hrPcmp R T b a = (hrPcmp R T a b).map Oracle.flipOrd ∧ hrEq R T b a = hrEq R T a b :=
  symm_of_swap R T L (by rw [cmpPair_same_unit R T hu, cmpPair_same_unit R T hu.symm]; rfl)

/-- Units of different scale: `a == b` exactly when `b == a`, and `partial_cmp` is reversed
when the operands are swapped, for ALL amounts (infinite and NaN amounts included; if the
conversion panics, it panics identically in both orders). -/
theorem cmp_symm_diff_scale {M : ErrModel} (L : Laws R M) (a b : Q A U) (sa sb : Rat)
    (hsa : R.val (T.scale a.unit) = some sa) (hsb : R.val (T.scale b.unit) = some sb)
    (hne : sa ≠ sb) :
    hrPcmp R T b a = (hrPcmp R T a b).map Oracle.flipOrd ∧ hrEq R T b a = hrEq R T a b := by
  refine symm_of_swap R T L ?_
  have hab := L.le_iff hsa hsb
  have hba := L.le_iff hsb hsa
  rcases lt_or_gt_of_ne hne with h | h
  · rw [cmpPair_of_le (hab.mpr h.le), cmpPair_of_not_le (mt hba.mp h.not_ge)]
    cases equivAmount R T b a.unit <;> rfl
  · rw [cmpPair_of_not_le (mt hab.mp h.not_ge), cmpPair_of_le (hba.mpr h.le)]
    cases equivAmount R T a b.unit <;> rfl

/-- `a == b` exactly when `b == a`, and `partial_cmp` is reversed when the operands are
swapped (hence `a < b` exactly when `b > a`), for all finite amounts and all units of finite scale
(`sa ≠ 0` is only used when two different units have the same scale). -/
theorem cmp_symm {M : ErrModel} (L : Laws R M) (a b : Q A U) (sa sb x y : Rat)
    (hsa : R.val (T.scale a.unit) = some sa) (hsb : R.val (T.scale b.unit) = some sb)
    (hsa0 : sa ≠ 0) (hx : R.val a.amount = some x) (hy : R.val b.amount = some y) :
    hrPcmp R T b a = (hrPcmp R T a b).map Oracle.flipOrd ∧ hrEq R T b a = hrEq R T a b := by
  by_cases hu : a.unit = b.unit
  · exact cmp_symm_same_unit R T L a b hu
  rcases ne_or_eq sa sb with hne | rfl
  · exact cmp_symm_diff_scale R T L a b sa sb hsa hsb hne
  obtain ⟨d1, e1, v1⟩ := equiv_same_scale R T L (Ne.symm hu) hsb hsa hsa0 hy
  obtain ⟨d2, e2, v2⟩ := equiv_same_scale R T L hu hsa hsb hsa0 hx
  refine symm_of_flip R T L (c := (a.amount, d1)) (c' := (b.amount, d2)) ?_ ?_ ?_
  · rw [cmpPair_of_le ((L.le_iff hsa hsb).mpr le_rfl), e1]; rfl
  · rw [cmpPair_of_le ((L.le_iff hsb hsa).mpr le_rfl), e2]; rfl
  · rw [L.pcmp_val _ _ y x hy v2, L.pcmp_val _ _ x y hx v1, ratCmp_flip]

/-- Whenever the physical magnitudes `x·sₐ` and `y·s_b` differ by more than the rounding
error of one conversion (the larger of the two directions' bounds — the same margin the
run-time oracle uses), `partial_cmp` answers as their exact order and `==` is false. -/
theorem cmp_physical {M : ErrModel} (L : Laws R M) (a b : Q A U) (sa sb x y : Rat)
    (hu : a.unit ≠ b.unit)
    (hsa : R.val (T.scale a.unit) = some sa) (hsb : R.val (T.scale b.unit) = some sb)
    (hsa0 : 0 < sa) (hsb0 : 0 < sb)
    (hx : R.val a.amount = some x) (hy : R.val b.amount = some y)
    (hs1 : Oracle.convSafe M sb sa y = true) (hs2 : Oracle.convSafe M sa sb x = true)
    (hgap : max (Oracle.convBound M sb sa y) (Oracle.convBound M sa sb x) < |x * sa - y * sb|) :
    hrPcmp R T a b = .ok (some (ratCmp (x * sa) (y * sb))) ∧ hrEq R T a b = .ok false := by
  -- it is enough that the compared pair has values whose order is the order of the magnitudes
  suffices h : ∃ c p q, cmpPair R T a b = .ok c ∧ R.val c.1 = some p ∧ R.val c.2 = some q ∧
      ratCmp p q = ratCmp (x * sa) (y * sb) by
    obtain ⟨c, p, q, hc, hp, hq, hpq⟩ := h
    have hne : x * sa ≠ y * sb := fun h => by
      rw [h, sub_self, abs_zero] at hgap
      exact absurd ((convBound_nonneg L.wf sb sa y).trans (le_max_left _ _)) hgap.not_ge
    rw [hrPcmp_eq, hrEq_eq, hc, Res.map_ok, Res.map_ok, L.beq_pcmp, L.pcmp_val _ _ p q hp hq, hpq,
      ratCmp_beq_eq, decide_eq_false hne]
    exact ⟨rfl, rfl⟩
  by_cases hle : R.le (T.scale a.unit) (T.scale b.unit) = true
  · obtain ⟨c, y', heq, hy'v, hy'e, -⟩ :=
      equiv_ok R T L (Ne.symm hu) hsb hsa hsa0.ne' hy hs1
    refine ⟨_, x, y', by rw [cmpPair_of_le hle, heq]; rfl, hx, hy'v, ?_⟩
    rw [← ratCmp_scale x y' hsa0]
    exact ratCmp_of_close (convBound_of_convBoundIn hsa0.ne' hy'e)
      ((le_max_left _ _).trans_lt hgap)
  · obtain ⟨c, x', heq, hx'v, hx'e, -⟩ :=
      equiv_ok R T L hu hsa hsb hsb0.ne' hx hs2
    refine ⟨_, x', y, by rw [cmpPair_of_not_le hle, heq]; rfl, hx'v, hy, ?_⟩
    -- the same argument with the operands exchanged, then flipped back
    have h := ratCmp_of_close (convBound_of_convBoundIn hsb0.ne' hx'e)
      ((le_max_right _ _).trans_lt (abs_sub_comm (x * sa) (y * sb) ▸ hgap))
    rw [ratCmp_scale y x' hsb0] at h
    rw [← Option.some_inj, ← ratCmp_flip y x', ← ratCmp_flip (y * sb) (x * sa), h]

/-- `HasRefUnit::eq` as it was before the repair: always converts `other` into `self`'s unit. -/
def oldEq (a b : Q A U) : Res Bool := do
  return R.beq a.amount (← equivAmount R T b a.unit)

/-- decimal back-end, units with scales 1 (second) and 60 (minute):
`1 min == 60 s` was false while `60 s == 1 min` was true. -/
theorem cmp_symm_fails_for_old_code :
    let T : QT Dec Nat := { units := [0, 1], scale := fun u => if u = 0 then ⟨10, 1⟩ else ⟨60, 0⟩,
                            hasPrefix := fun _ => false, ref := 0 }
    oldEq Dec.arith T ⟨⟨1, 0⟩, 1⟩ ⟨⟨60, 0⟩, 0⟩ = .ok false ∧
    oldEq Dec.arith T ⟨⟨60, 0⟩, 0⟩ ⟨⟨1, 0⟩, 1⟩ = .ok true ∧
    hrEq Dec.arith T ⟨⟨1, 0⟩, 1⟩ ⟨⟨60, 0⟩, 0⟩ = .ok true ∧
    hrEq Dec.arith T ⟨⟨60, 0⟩, 0⟩ ⟨⟨1, 0⟩, 1⟩ = .ok true := by
  decide +kernel

/-- non-vacuity of `cmp_physical`: 2 ft vs 25 in (decimal) are further apart than the margin -/
example : Oracle.convSafe ErrModel.dec (254 / 10000) (3048 / 10000) 25 = true ∧
    max (Oracle.convBound ErrModel.dec (254 / 10000) (3048 / 10000) 25)
        (Oracle.convBound ErrModel.dec (3048 / 10000) (254 / 10000) 2)
      < |(2 : Rat) * (3048 / 10000) - 25 * (254 / 10000)| := by
  constructor <;> decide +kernel

end Qty.C02
