import QtyModel.Props.C01
import QtyModel.Props.C02
import QtyModel.Props.C03
import QtyModel.Props.C04
import QtyModel.Props.C05
import QtyModel.Props.C10
import QtyModel.Props.C13
import QtyModel.Lemmas.DecLaws
import QtyModel.Lemmas.Res
import QtyModel.Lemmas.Conv
import QtyModel.Lemmas.Basic
/-
  C18 — Operations are total on in-range inputs.

  * an amount type whose `*`, `/`, `+`, `-` never panic (`Total`): no modelled operation on a
    quantity with a reference unit panics (`Total.*`).  Binary floating point is such a type,
    whatever the amounts (zero, subnormal, infinite, NaN): `f64_*_total`.
  * decimal: no panic inside the magnitude domain: the magnitude theorems of C01, C03, C04, C13
    (`convert_mag`, `addsub_mag`, `div_ratio`, `dmul/ddiv_mag`, `mulQ/divQ_sound`) instantiated
    with `Dec.laws` give existence of the result under the `safe` side conditions; `convSafe_of_in_range` shows that the property's literal domain
    (|magnitudes| ≤ 1e17) implies those side conditions for a conversion.
  * the only other panic is the documented unit mismatch of types without reference unit
    (`C10.only_documented_panic`).
-/
namespace Qty.C18

variable {U V W : Type} [DecidableEq U] [DecidableEq V] [DecidableEq W]

/-- `*`, `/`, `+`, `-` of the amount type always return (binary floating point: overflow and
division by zero give an infinity or NaN, not a panic) -/
structure Total {A : Type} (R : Arith A) : Prop where
  mul : ∀ a b, ∃ c, R.mul a b = .ok c
  div : ∀ a b, ∃ c, R.div a b = .ok c
  add : ∀ a b, ∃ c, R.add a b = .ok c
  sub : ∀ a b, ∃ c, R.sub a b = .ok c

/-- both comparisons return when the two conversions they may need do -/
theorem cmp_ok {A : Type} (R : Arith A) (T : QT A U) (a b : Q A U)
    (h1 : ∃ c, equivAmount R T b a.unit = .ok c) (h2 : ∃ c, equivAmount R T a b.unit = .ok c) :
    (∃ e, hrEq R T a b = .ok e) ∧ (∃ p, hrPcmp R T a b = .ok p) := by
  have h : ∃ p, cmpPair R T a b = .ok p := by
    by_cases hle : R.le (T.scale a.unit) (T.scale b.unit) = true
    · exact cmpPair_of_le hle ▸ Res.exists_ok_map _ h1
    · exact cmpPair_of_not_le hle ▸ Res.exists_ok_map _ h2
  rw [hrEq_eq, hrPcmp_eq]
  exact ⟨Res.exists_ok_map _ h, Res.exists_ok_map _ h⟩

namespace Total
variable {A : Type} {R : Arith A} (H : Total R)
include H

theorem equivAmount_ok (T : QT A U) (q : Q A U) (u : U) : ∃ v, equivAmount R T q u = .ok v := by
  by_cases h : q.unit = u
  · exact ⟨_, h ▸ equivAmount_self R T q⟩
  · rw [equivAmount_of_ne R T h]
    exact Res.exists_ok_bind (H.div _ _) fun r => H.mul r _

theorem convert_ok (T : QT A U) (q : Q A U) (u : U) : ∃ r, convert R T q u = .ok r :=
  convert_eq R T q u ▸ Res.exists_ok_map _ (H.equivAmount_ok T q u)

theorem hrCmp_ok (T : QT A U) (a b : Q A U) :
    (∃ e, hrEq R T a b = .ok e) ∧ (∃ p, hrPcmp R T a b = .ok p) :=
  cmp_ok R T a b (H.equivAmount_ok T b a.unit) (H.equivAmount_ok T a b.unit)

theorem hrAddSub_ok (T : QT A U) {op : A → A → Res A} (hop : ∀ a b, ∃ c, op a b = .ok c)
    (a b : Q A U) : ∃ r, hrAddSub R T op a b = .ok r :=
  Res.exists_ok_map _ (Res.exists_ok_bind (H.equivAmount_ok T b a.unit) (hop _))

theorem hrDiv_ok (T : QT A U) (a b : Q A U) : ∃ r, hrDiv R T a b = .ok r :=
  Res.exists_ok_bind (H.equivAmount_ok T b a.unit) (H.div _)

/-- `_fit` cannot panic: its `unwrap` is safe because the reference unit is always eligible -/
theorem fit_ok (T : QT A U) (h : T.ref ∈ T.units) (x : A) : ∃ r, fit R T x = .ok r :=
  C05.fit_ok_of_div R T h x fun _ _ => H.div _ _

set_option linter.unusedSectionVars false in
theorem derivedOp_ok {op : A → A → Res A} (hop : ∀ a b, ∃ c, op a b = .ok c)
    (TL : QT A U) (TR : QT A V) (TO : QT A W) (h : TO.ref ∈ TO.units) (l : Q A U) (r : Q A V) :
    ∃ res, derivedOp R op TL TR TO l r = .ok res := by
  obtain ⟨s, hs⟩ := hop (TL.scale l.unit) (TR.scale r.unit)
  cases hf : unitFromScale R TO s with
  | some w => exact derivedOp_natural hs hf ▸ Res.exists_ok_map _ (hop _ _)
  | none =>
    exact derivedOp_fitted hs hf ▸
      Res.exists_ok_bind (hop _ _) fun p => Res.exists_ok_bind (H.mul p s) (H.fit_ok TO h)

/-- rates over quantities with reference unit -/
theorem mulQ_ok (T : RTable A) (hk : T.kind = .withRef) (r : Rate A) (q : Q A Nat) :
    ∃ res, Rate.mulQ R T r q = .ok res := by
  refine Res.exists_ok_bind ?_ fun x => Res.exists_ok_bind (H.div x _) fun y => Res.exists_ok_map _ (H.mul y _)
  rw [Rate.qdiv, hk]
  exact H.hrDiv_ok _ q _

theorem tconv_ok (rows : List (ConvRow A)) (q : Q A Nat) (u : Nat) :
    ∃ r, tconv R rows q u = .ok r := by
  unfold tconv
  split
  · exact ⟨_, rfl⟩
  · split
    · exact ⟨_, rfl⟩
    · exact Res.exists_ok_bind (H.mul _ _) fun m => Res.exists_ok_bind (H.add m _) fun c => ⟨_, rfl⟩

end Total

theorem f64_total : Total F64.arith :=
  ⟨fun _ _ => ⟨_, rfl⟩, fun _ _ => ⟨_, rfl⟩, fun _ _ => ⟨_, rfl⟩, fun _ _ => ⟨_, rfl⟩⟩

theorem f64_equiv_total (T : QT F64 U) (q : Q F64 U) (u : U) : ∃ v, equivAmount F64.arith T q u = .ok v :=
  f64_total.equivAmount_ok T q u

theorem f64_convert_total (T : QT F64 U) (q : Q F64 U) (u : U) : ∃ r, convert F64.arith T q u = .ok r :=
  f64_total.convert_ok T q u

theorem f64_eq_total (T : QT F64 U) (a b : Q F64 U) : ∃ r, hrEq F64.arith T a b = .ok r :=
  (f64_total.hrCmp_ok T a b).1

theorem f64_pcmp_total (T : QT F64 U) (a b : Q F64 U) : ∃ r, hrPcmp F64.arith T a b = .ok r :=
  (f64_total.hrCmp_ok T a b).2

theorem f64_add_total (T : QT F64 U) (a b : Q F64 U) : ∃ r, hrAdd F64.arith T a b = .ok r :=
  hrAdd_eq F64.arith T a b ▸ f64_total.hrAddSub_ok T f64_total.add a b

theorem f64_sub_total (T : QT F64 U) (a b : Q F64 U) : ∃ r, hrSub F64.arith T a b = .ok r :=
  hrSub_eq F64.arith T a b ▸ f64_total.hrAddSub_ok T f64_total.sub a b

theorem f64_div_total (T : QT F64 U) (a b : Q F64 U) : ∃ r, hrDiv F64.arith T a b = .ok r :=
  f64_total.hrDiv_ok T a b

set_option linter.unusedSectionVars false in
theorem f64_scalar_total (k : F64) (q : Q F64 U) :
    (∃ r, smul F64.arith k q = .ok r) ∧ (∃ r, muls F64.arith q k = .ok r) ∧ (∃ r, sdiv F64.arith q k = .ok r) :=
  ⟨⟨_, rfl⟩, ⟨_, rfl⟩, ⟨_, rfl⟩⟩

theorem f64_fit_total (T : QT F64 U) (h : T.ref ∈ T.units) (x : F64) : ∃ r, fit F64.arith T x = .ok r :=
  f64_total.fit_ok T h x

theorem f64_dmul_total (TL : QT F64 U) (TR : QT F64 V) (TO : QT F64 W) (h : TO.ref ∈ TO.units)
    (l : Q F64 U) (r : Q F64 V) : ∃ res, dmul F64.arith TL TR TO l r = .ok res :=
  dmul_eq F64.arith TL TR TO l r ▸ f64_total.derivedOp_ok f64_total.mul TL TR TO h l r

theorem f64_ddiv_total (TL : QT F64 U) (TR : QT F64 V) (TO : QT F64 W) (h : TO.ref ∈ TO.units)
    (l : Q F64 U) (r : Q F64 V) : ∃ res, ddiv F64.arith TL TR TO l r = .ok res :=
  ddiv_eq F64.arith TL TR TO l r ▸ f64_total.derivedOp_ok f64_total.div TL TR TO h l r

theorem f64_rate_total (T : RTable F64) (hk : T.kind = .withRef) (r : Rate F64) (q : Q F64 Nat) :
    (∃ res, Rate.mulQ F64.arith T r q = .ok res) ∧ (∃ res, Rate.divQ F64.arith T q r = .ok res) :=
  ⟨f64_total.mulQ_ok T hk r q, f64_total.mulQ_ok T hk r.reciprocal q⟩

theorem f64_tconv_total (rows : List (ConvRow F64)) (q : Q F64 Nat) (u : Nat) :
    ∃ r, tconv F64.arith rows q u = .ok r :=
  f64_total.tconv_ok rows q u

/-- the property's literal domain implies the side condition of the conversion theorems:
scale ratio, amount and converted amount of absolute value at most 1e17 -/
theorem convSafe_of_in_range (s1 s2 a : Rat)
    (hρ : |s1 / s2| ≤ 10 ^ 17) (ha : |a| ≤ 10 ^ 17) (hρa : |s1 / s2 * a| ≤ 10 ^ 17) :
    Oracle.convSafe ErrModel.dec s1 s2 a = true := by
  simp only [Oracle.convSafe, Oracle.convBoundIn, Bool.and_eq_true, Dec.safe_iff, Dec.dec_E,
    ratAbs_eq_abs]
  rw [abs_mul] at hρa
  have hη : (0 : ℚ) ≤ 1 / (2 * 10 ^ 18) := by norm_num
  have hb := abs_nonneg a
  refine ⟨hρ.trans (by norm_num), (abs_of_nonneg ?_).trans_le ?_⟩
  · exact add_nonneg (mul_nonneg (add_nonneg (abs_nonneg _) hη) hb)
      (add_nonneg hη (mul_nonneg hb hη))
  · linarith only [hρa, ha]

/-- the property's literal domain implies the second side condition of `dec_addsub_total`:
both amounts and the converted right operand of absolute value at most `1e17` -/
theorem addsub_safe_of_in_range (s1 s2 x y : Rat)
    (hx : |x| ≤ 10 ^ 17) (hy : |y| ≤ 10 ^ 17) (hρy : |s2 / s1 * y| ≤ 10 ^ 17) :
    ErrModel.dec.safe (ratAbs x + (ratAbs (s2 / s1) * ratAbs y
        + Oracle.convBoundIn ErrModel.dec s2 s1 y)
      + ErrModel.dec.Ea (ratAbs x + (ratAbs (s2 / s1) * ratAbs y
        + Oracle.convBoundIn ErrModel.dec s2 s1 y))) = true := by
  simp only [Dec.dec_Ea, Oracle.convBoundIn, Dec.dec_E, ratAbs_eq_abs, add_zero]
  rw [abs_mul] at hρy
  have hx0 := abs_nonneg x
  have hy0 := abs_nonneg y
  have ht0 := mul_nonneg (abs_nonneg (s2 / s1)) hy0
  generalize |s2 / s1| * |y| = t at hρy ht0 ⊢
  generalize |x| = x' at hx hx0 ⊢
  generalize |y| = y' at hy hy0 ⊢
  rw [Dec.safe_of_nonneg, decide_eq_true_eq]
  · linarith only [hx, hy, hρy]
  · exact add_nonneg hx0 (add_nonneg ht0 (add_nonneg Dec.eta_nonneg (mul_nonneg hy0 Dec.eta_nonneg)))

/-- the property's literal domain implies the side conditions of `dec_div_total`: scale ratio
and divisor expressed in the dividend's unit of absolute value at least `1e-15` (so the divisor is
further from zero than the rounding error of its conversion), quotient at most `1e17` -/
theorem div_safe_of_in_range (s1 s2 x y : Rat)
    (hρlo : 1 / 10 ^ 15 ≤ |s2 / s1|) (htlo : 1 / 10 ^ 15 ≤ |s2 / s1 * y|)
    (hq : |x / (s2 / s1 * y)| ≤ 10 ^ 17) :
    Oracle.convBoundIn ErrModel.dec s2 s1 y < ratAbs (s2 / s1 * y) ∧
    ErrModel.dec.safe (ratAbs x / (ratAbs (s2 / s1 * y) - Oracle.convBoundIn ErrModel.dec s2 s1 y)
      + ErrModel.dec.E (ratAbs x / (ratAbs (s2 / s1 * y)
        - Oracle.convBoundIn ErrModel.dec s2 s1 y))) = true := by
  simp only [Oracle.convBoundIn, Dec.dec_E, ratAbs_eq_abs]
  rw [abs_div] at hq
  have h1 := mul_le_mul_of_nonneg_right hρlo (abs_nonneg y)
  rw [← abs_mul] at h1
  have hx0 := abs_nonneg x
  -- the constants enter through these three facts only; after that they are atoms `δ`, `B`, `C`
  have hε : (1:ℚ) / (2 * 10 ^ 18) = 1 / 2000 * (1 / 10 ^ 15) := by norm_num
  have hδ : (0:ℚ) < 1 / 10 ^ 15 := by norm_num
  have hB : (1000:ℚ) / 999 * 10 ^ 17 + 1 / 2000 * (1 / 10 ^ 15) ≤ 10 ^ 19 := by norm_num
  rw [hε]
  generalize (1:ℚ) / 10 ^ 15 = δ at *
  generalize (10:ℚ) ^ 17 = B at *
  generalize |s2 / s1 * y| = t at *
  generalize |x| = x' at *
  generalize |y| = y' at *
  -- the conversion error `c` of the divisor is at most `t / 1000`, so dividing by `t − c` instead
  -- of `t` costs at most the factor `1000/999`
  have hlo : 0 < 999 / 1000 * t := mul_pos (by norm_num) (hδ.trans_le htlo)
  have hle : 999 / 1000 * t ≤ t - (1 / 2000 * δ + y' * (1 / 2000 * δ)) := by
    linarith only [htlo, h1]
  refine ⟨sub_pos.mp (hlo.trans_le hle), (Dec.safe_of_nonneg (add_nonneg
    (div_nonneg hx0 (hlo.le.trans hle)) (mul_nonneg (by norm_num) hδ.le))).trans
    (decide_eq_true ?_)⟩
  have hdiv := div_le_div_of_nonneg_left hx0 hlo hle
  rw [show x' / (999 / 1000 * t) = 1000 / 999 * (x' / t) by ring] at hdiv
  exact (add_le_add (hdiv.trans (mul_le_mul_of_nonneg_left hq (by norm_num))) le_rfl).trans hB

/-- conversion in the decimal back-end does not panic inside the domain -/
theorem dec_convert_total (T : QT Dec U) (q : Q Dec U) (u : U) (s1 s2 a : Rat)
    (hne : q.unit ≠ u)
    (hs1 : Dec.arith.val (T.scale q.unit) = some s1) (hs2 : Dec.arith.val (T.scale u) = some s2)
    (hs2ne : s2 ≠ 0) (ha : Dec.arith.val q.amount = some a)
    (hρ : |s1 / s2| ≤ 10 ^ 17) (hav : |a| ≤ 10 ^ 17) (hρa : |s1 / s2 * a| ≤ 10 ^ 17) :
    ∃ r, convert Dec.arith T q u = .ok r :=
  let ⟨r, _, h, _⟩ := C01.convert_mag Dec.arith T Dec.laws q u s1 s2 a hne hs1 hs2 hs2ne ha
    (convSafe_of_in_range s1 s2 a hρ hav hρa)
  ⟨r, h⟩

theorem dec_addsub_total (T : QT Dec U) (isSub : Bool) (a b : Q Dec U) (s1 s2 x y : Rat)
    (hne : b.unit ≠ a.unit)
    (hs1 : Dec.arith.val (T.scale a.unit) = some s1) (hs2 : Dec.arith.val (T.scale b.unit) = some s2)
    (hs1ne : s1 ≠ 0) (hx : Dec.arith.val a.amount = some x) (hy : Dec.arith.val b.amount = some y)
    (hsafe : Oracle.convSafe ErrModel.dec s2 s1 y = true)
    (hsafe2 : ErrModel.dec.safe (ratAbs x + (ratAbs (s2 / s1) * ratAbs y + Oracle.convBoundIn ErrModel.dec s2 s1 y)
      + ErrModel.dec.Ea (ratAbs x + (ratAbs (s2 / s1) * ratAbs y + Oracle.convBoundIn ErrModel.dec s2 s1 y))) = true) :
    ∃ r, (if isSub then hrSub Dec.arith T a b else hrAdd Dec.arith T a b) = .ok r :=
  let ⟨r, _, h, _⟩ := C03.addsub_mag Dec.arith T Dec.laws isSub a b s1 s2 x y hne hs1 hs2 hs1ne hx hy hsafe hsafe2
  ⟨r, h⟩

theorem dec_dmul_total (TL : QT Dec U) (TR : QT Dec V) (TO : QT Dec W)
    (hI : TO.fitIdentity = none) (href : TO.ref ∈ TO.units)
    (l : Q Dec U) (r : Q Dec V) (a b sl sr : Rat)
    (ha : Dec.arith.val l.amount = some a) (hb : Dec.arith.val r.amount = some b)
    (hsl : Dec.arith.val (TL.scale l.unit) = some sl) (hsr : Dec.arith.val (TR.scale r.unit) = some sr)
    (sc : W → Rat) (hsc : ∀ u ∈ TO.units, Dec.arith.val (TO.scale u) = some (sc u) ∧ 0 < sc u)
    (hsafe : ∀ u ∈ TO.units, Oracle.derivedSafe ErrModel.dec (a * b) (sl * sr) (sc u) = true) :
    ∃ res, dmul Dec.arith TL TR TO l r = .ok res :=
  let ⟨res, _, h, _⟩ := C04.dmul_mag Dec.arith Dec.laws TL TR TO hI href l r a b sl sr ha hb hsl hsr sc hsc hsafe
  ⟨res, h⟩

theorem dec_ddiv_total (TL : QT Dec U) (TR : QT Dec V) (TO : QT Dec W)
    (hI : TO.fitIdentity = none) (href : TO.ref ∈ TO.units)
    (l : Q Dec U) (r : Q Dec V) (a b sl sr : Rat)
    (ha : Dec.arith.val l.amount = some a) (hb : Dec.arith.val r.amount = some b) (hb0 : b ≠ 0)
    (hsl : Dec.arith.val (TL.scale l.unit) = some sl) (hsr : Dec.arith.val (TR.scale r.unit) = some sr) (hsr0 : sr ≠ 0)
    (sc : W → Rat) (hsc : ∀ u ∈ TO.units, Dec.arith.val (TO.scale u) = some (sc u) ∧ 0 < sc u)
    (hsafe : ∀ u ∈ TO.units, Oracle.derivedSafe ErrModel.dec (a / b) (sl / sr) (sc u) = true) :
    ∃ res, ddiv Dec.arith TL TR TO l r = .ok res :=
  let ⟨res, _, h, _⟩ := C04.ddiv_mag Dec.arith Dec.laws TL TR TO hI href l r a b sl sr ha hb hb0 hsl hsr hsr0 sc hsc hsafe
  ⟨res, h⟩

theorem dec_div_total (T : QT Dec U) (a b : Q Dec U) (s1 s2 x y : Rat)
    (hne : b.unit ≠ a.unit)
    (hs1 : Dec.arith.val (T.scale a.unit) = some s1) (hs2 : Dec.arith.val (T.scale b.unit) = some s2) (hs1ne : s1 ≠ 0)
    (hx : Dec.arith.val a.amount = some x) (hy : Dec.arith.val b.amount = some y)
    (hsafe : Oracle.convSafe ErrModel.dec s2 s1 y = true)
    (hcb : Oracle.convBoundIn ErrModel.dec s2 s1 y < ratAbs (s2 / s1 * y))
    (hsafe2 : ErrModel.dec.safe (ratAbs x / (ratAbs (s2 / s1 * y) - Oracle.convBoundIn ErrModel.dec s2 s1 y)
      + ErrModel.dec.E (ratAbs x / (ratAbs (s2 / s1 * y) - Oracle.convBoundIn ErrModel.dec s2 s1 y))) = true) :
    ∃ c, hrDiv Dec.arith T a b = .ok c :=
  let ⟨c, _, h, _⟩ := C03.div_ratio Dec.arith T Dec.laws a b s1 s2 x y hne hs1 hs2 hs1ne hx hy hsafe hcb hsafe2
  ⟨c, h⟩

/-- comparisons across units: both conversions stay in range, so `==` and `partial_cmp` return -/
theorem dec_cmp_total (T : QT Dec U) (a b : Q Dec U) (sa sb x y : Rat)
    (hsa : Dec.arith.val (T.scale a.unit) = some sa) (hsb : Dec.arith.val (T.scale b.unit) = some sb)
    (hsa0 : sa ≠ 0) (hsb0 : sb ≠ 0)
    (hx : Dec.arith.val a.amount = some x) (hy : Dec.arith.val b.amount = some y)
    (hs1 : Oracle.convSafe ErrModel.dec sb sa y = true) (hs2 : Oracle.convSafe ErrModel.dec sa sb x = true) :
    (∃ e, hrEq Dec.arith T a b = .ok e) ∧ (∃ p, hrPcmp Dec.arith T a b = .ok p) := by
  by_cases hu : a.unit = b.unit
  · rw [C02.eq_same_unit Dec.arith T a b hu, C02.pcmp_same_unit Dec.arith T a b hu]
    exact ⟨⟨_, rfl⟩, ⟨_, rfl⟩⟩
  · obtain ⟨c1, _, he1, _⟩ := equiv_ok Dec.arith T Dec.laws (Ne.symm hu) hsb hsa hsa0 hy hs1
    obtain ⟨c2, _, he2, _⟩ := equiv_ok Dec.arith T Dec.laws hu hsa hsb hsb0 hx hs2
    exact cmp_ok Dec.arith T a b ⟨c1, he1⟩ ⟨c2, he2⟩

/-- rates: `rate * q`, `q * rate` and `q / rate` return inside the range described by the
propagated bound (`w.ok`) -/
theorem dec_rate_total (T : RTable Dec) (r : Rate Dec) (q : Q Dec Nat) (qv pmv tav : Rat) (w w' : Approx)
    (hq : Dec.arith.val q.amount = some qv) (hpm : Dec.arith.val r.perMultiple = some pmv)
    (hta : Dec.arith.val r.termAmount = some tav)
    (hw : approxRateApply Dec.arith ErrModel.dec T (Approx.exact qv) q.unit r.perUnit (Approx.exact pmv) (Approx.exact tav) = .ok (some w))
    (hok : w.ok = true)
    (hw' : approxRateApply Dec.arith ErrModel.dec T (Approx.exact qv) q.unit r.termUnit (Approx.exact tav) (Approx.exact pmv) = .ok (some w'))
    (hok' : w'.ok = true) :
    (∃ res, Rate.mulQ Dec.arith T r q = .ok res) ∧ (∃ res, Rate.divQ Dec.arith T q r = .ok res) :=
  let ⟨res, h, _⟩ := C13.mulQ_sound Dec.arith Dec.laws T r q qv pmv tav w hq hpm hta hw hok
  let ⟨res', h', _⟩ := C13.divQ_sound Dec.arith Dec.laws T r q qv pmv tav w' hq hpm hta hw' hok'
  ⟨⟨res, h⟩, ⟨res', h'⟩⟩

/-- for types without reference unit the only panic beyond the amount type's own is the
documented unit mismatch -/
theorem only_documented_panic {A : Type} (R : Arith A) (a b : Q A U) (p : Panic)
    (h : nrAdd R a b = .error p) : p = .unitMismatch ∨ R.add a.amount b.amount = .error p :=
  C10.only_documented_panic R a b p h

/-- non-vacuity: the domain hypotheses `hρ`, `ha` of `convSafe_of_in_range` are met by 3.5 ft → in
(the third, `hρa`, is about their product `12 · 3.5`) -/
example : |(3048 / 10000 : Rat) / (254 / 10000)| ≤ 10 ^ 17 ∧ |(35 / 10 : Rat)| ≤ 10 ^ 17 := by
  constructor <;> norm_num [abs_of_pos]

end Qty.C18
