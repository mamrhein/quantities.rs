import QtyModel.Props.OracleSoundBase
import QtyModel.Lemmas.Approx
import QtyModel.Lemmas.Basic
/- `OracleSound`: `Approx.judge` never rejects a realised amount (used by C13 and C14). -/
namespace Qty.OracleSound

variable {A : Type} (R : Arith A)

/-- **`Approx.judge`** never fails when the observed value is the exact value of an amount `c`
that `Realises` the description (whenever the description exists and is in range).  This is the
situation of the calls `Approx.judge a1 …` of the ops `rate … mulq`, `rate … divq` and of the call of
`temp conv` in `Main.lean`: there the description is proven sound by `C13.mulQ_sound` /
`C14.tconv_sound`, see the corollaries in `OracleSoundC13.lean` and `OracleSoundC14.lean`. -/
theorem judge_accepts_realised (x : Option Approx) (c : A) (why : String)
    (h : ∀ x', x = some x' → x'.ok = true → Realises R c x') (w : String) :
    Approx.judge x (R.val c) why ≠ .fail w := by
  revert w
  change NoFail _
  unfold Approx.judge
  cases x with
  | none => exact .skip _
  | some x' =>
    refine NoFail.ite_not_skip fun hok => ?_
    obtain ⟨z, hz, hbd⟩ := h x' rfl hok
    rw [hz]
    exact .check _ (decide_eq_true (ratAbs_eq_abs _ ▸ hbd))

end Qty.OracleSound
