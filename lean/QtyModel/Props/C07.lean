import QtyModel.UnitSpec
import QtyModel.Generated.Catalogue
import QtyModel.Generated.Astro
import QtyModel.Dec
/-
  C07 — Catalogue units carry their defined scales, prefixes and symbols.

  The unit tables are regenerated from the source on every run
  (`Generated/Catalogue.lean`, `Generated/Astro.lean`); the theorems compare them,
  through the model of the macro front end, with the independently written
  definition table `Spec/Units.lean` (hand-written source: /verif/spec/units.spec).
  All proofs are kernel evaluations of a Boolean checker over the WHOLE table.
-/
namespace Qty.C07
open Qty.UnitSpec

/-- qualified quantity name: `A:` prefix for the astronomical crate -/
def qual (astro : Bool) (n : Text) : Text := if astro then [65, 58] ++ n else n

/-- one `#[quantity]` item: expands, and every unit matches its published definition
(symbol, SI prefix, name spelled by the identifier, scale: EXACT when the definition is a
terminating decimal, within 1e-15 relative otherwise), no unit is missing, reference units have
scale one, SI prefixes are mutually consistent; `except` lists the units allowed to differ -/
def itemOk (astro : Bool) (except : List Text) (it : RawItem) : Bool :=
  match MacroFront.expand it with
  | .ok d =>
    (badUnits (qual astro d.name) d == except) && complete (qual astro d.name) d && siConsistent d &&
    d.units.all (fun u => match d.refIdent with
      | some r => if u.ident == r then (u.scale.map (·.value)) == some 1 else true
      | none => true)
  | .error _ => false

/-- the 14 catalogue quantities of the main crate: every unit matches -/
theorem catalogue_matches_spec : Gen.Catalogue.items.all (itemOk false []) = true := by
  decide +kernel

def unitCount (items : List RawItem) : Nat :=
  (items.map (fun it => match MacroFront.expand it with
    | .ok d => d.units.length
    | .error _ => 0)).sum

theorem catalogue_counts : Gen.Catalogue.items.length = 14 ∧ unitCount Gen.Catalogue.items = 112 := by
  decide +kernel

/-- "Sideral Day" -/
def sideralDay : Text := [83, 105, 100, 101, 114, 97, 108, 32, 68, 97, 121]

/-- the astronomical crate: every unit matches EXCEPT the sidereal day (`sideral_day_mismatch`), a unit of
the quantity named `[68, 117, …]` = "Duration" -/
theorem astro_matches_spec_partial :
    Gen.Astro.items.all (fun it => itemOk true (if it.name == [68, 117, 114, 97, 116, 105, 111, 110] then [sideralDay] else []) it) = true := by
  decide +kernel

theorem astro_counts : Gen.Astro.items.length = 4 ∧ unitCount Gen.Astro.items = 27 := by
  decide +kernel

/-- KNOWN FINDING (kernel-checked witness): the declared scale of `Sideral_Day`,
0.9972685185185185 (= 86164/86400), is not its published definition a·d/(a+d) = 1461/1465
(0.99726962…): the relative distance is 1.1e-6, far outside the 1e-15 tolerance -/
theorem sideral_day_mismatch :
    (1461 : Rat) / 1465 - 9972685185185185 / 10000000000000000 > 1 / 1000000 := by
  decide +kernel

/-- in the decimal back-end every catalogue scale literal is representable EXACTLY
(at most 18 fractional digits): `Amnt!(lit)` = the literal's value -/
theorem dec_scales_exact :
    Gen.Catalogue.items.all (fun it => match MacroFront.expand it with
      | .ok d => d.units.all (fun u => match u.scale with
        | some l => (Dec.ofLit l).map Dec.toRat == some l.value
        | none => true)
      | .error _ => false) = true := by
  decide +kernel

/-- in the binary back-end the scale is the correctly rounded literal (by definition of
`F64.ofLit`), and every catalogue and astronomical literal is accepted -/
theorem f64_scales_rounded :
    (Gen.Catalogue.items ++ Gen.Astro.items).all (fun it => match MacroFront.expand it with
      | .ok d => d.units.all (fun u => match u.scale with
        | some l => (F64.ofLit l).isSome
        | none => true)
      | .error _ => false) = true := by
  decide +kernel

/-- non-vacuity: the checker is not trivially true — a wrong scale is rejected -/
example : scaleOk ⟨[], [], [], none, .defined, [.num (254 / 100), .unit [76] [67] 1]⟩
    (some { digits := 254, nfrac := 4, isFloat := true }) = false := by decide +kernel

end Qty.C07
