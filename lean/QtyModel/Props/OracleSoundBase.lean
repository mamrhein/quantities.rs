import QtyModel.Oracle
/-
  The run-time oracles never reject the model's own output: whenever the model of an
  operation returns a value, the oracle evaluated on THAT value does not fail (it says `ok`,
  or `skip` outside the range the theorems cover).  Together with the bit-exact
  correspondence this means an oracle failure on an implementation output is never an
  artefact of the oracle being stricter than what is proved.

  The files are split by property (C01 and C03 share `OracleSound.lean`), so that a check only rests
  on the theorems of its own property.
  Every statement is tied to the place of `Main.lean` (function `step`) where the driver evaluates
  the oracle; where the driver computes the oracle's arguments with local `let`s, the same
  expressions are reproduced in the statement, as definitions `Drv.*` where there are several (ops
  `cmp`, `dmd`/`ddm`).
  This file: verdicts that are not failures, and how an oracle is walked down to its one judging
  branch.
-/
namespace Qty.OracleSound

/-- a verdict that is not a failure (whatever the message) -/
def NoFail (v : Verdict) : Prop := ∀ w, v ≠ .fail w

theorem NoFail.ok : NoFail .ok := nofun
theorem NoFail.skip (s : String) : NoFail (.skip s) := nofun

theorem NoFail.check {b : Bool} (msg : String) (h : b = true) : NoFail (check b msg) :=
  h ▸ NoFail.ok

theorem NoFail.and : ∀ {v1 v2 : Verdict}, NoFail v1 → NoFail v2 → NoFail (v1.and v2)
  | .fail w, _, h1, _ => absurd rfl (h1 w)
  | .ok, .fail w, _, h2 => absurd rfl (h2 w)
  | .skip _, .fail w, _, h2 => absurd rfl (h2 w)
  | .ok, .ok, _, _ => .ok
  | .ok, .skip s, _, _ => .skip s
  | .skip s, .ok, _, _ => .skip s
  | .skip s, .skip _, _, _ => .skip s

theorem NoFail.ite {c : Prop} [Decidable c] {v1 v2 : Verdict} (h1 : c → NoFail v1)
    (h2 : ¬c → NoFail v2) : NoFail (if c then v1 else v2) := by
  split
  · exact h1 ‹_›
  · exact h2 ‹_›

/-- a guard that skips: only the other branch has to be looked at -/
theorem NoFail.ite_skip {c : Prop} [Decidable c] {s : String} {v : Verdict} (h : ¬c → NoFail v) :
    NoFail (if c then .skip s else v) :=
  .ite (fun _ => .skip s) h

/-- the range guards have the form `if !inRange then skip` -/
theorem NoFail.ite_not_skip {b : Bool} {s : String} {v : Verdict} (h : b = true → NoFail v) :
    NoFail (if !b then .skip s else v) := by
  cases b
  · exact .skip s
  · exact h rfl

/-- Boolean test used by the kernel-checked witnesses (`Verdict` has no decidable equality) -/
def isFail : Verdict → Bool
  | .fail _ => true
  | _ => false

theorem not_noFail_of_isFail {v : Verdict} (h : isFail v = true) : ¬ NoFail v := by
  cases v with
  | fail w => exact fun hn => hn w rfl
  | ok => cases h
  | skip s => cases h

end Qty.OracleSound
