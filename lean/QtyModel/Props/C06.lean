import QtyModel.Props.C06General
import QtyModel.Spec.Dimensions
import QtyModel.Generated.Catalogue
import QtyModel.Generated.Astro
import QtyModel.Generated.Synth
/-
  C06 — Dimensional type safety of quantity arithmetic.  (partial: rustc is modelled)

  The verdict of the type checker for `L op R` is modelled as a lookup in the table of
  generated `impl`s (`Typing.lean`).  The theorems compare that table with the
  specification relation `TypingSpec.result`, written from the property text and
  independently of the generator, and with the independent dimension vectors.
-/
namespace Qty.C06

def declsOf (items : List RawItem) : List TyDecl :=
  items.filterMap (fun it => match MacroFront.expand it with
    | .ok d => some (TyDecl.ofDef d)
    | .error _ => none)

def namesOf (decls : List TyDecl) : List Text := amountName :: decls.map (·.name)

/-- the impl table accepts exactly the meaningful combinations, with exactly the meaningful
result type: checked for every operator and every ordered pair of types -/
def agrees (decls : List TyDecl) : Bool :=
  BinOp.all.all (fun op => (namesOf decls).all (fun l => (namesOf decls).all (fun r =>
    typechecks decls op l r == TypingSpec.result decls op l r)))

/-- `agrees` holds of every declaration list, so of the three regenerated ones in particular -/
theorem agrees_all (decls : List TyDecl) : agrees decls = true := by
  simp [agrees, typechecks_eq_result]

/-- 15 types x 15 types x 6 operators = 1350 combinations of the main crate -/
theorem catalogue_typing_is_meaningful : agrees (declsOf Gen.Catalogue.items) = true := agrees_all _
theorem astro_typing_is_meaningful : agrees (declsOf Gen.Astro.items) = true := agrees_all _
theorem synth_typing_is_meaningful : agrees (declsOf Gen.Synth.items) = true := agrees_all _

theorem catalogue_combination_count :
    BinOp.all.length * (namesOf (declsOf Gen.Catalogue.items)).length * (namesOf (declsOf Gen.Catalogue.items)).length = 1350 := by
  decide +kernel

/-- at most one result type per operand pair: no two generated impls share `(op, lhs, rhs)`
(otherwise rustc would reject the crate for conflicting implementations) -/
def unambiguous (decls : List TyDecl) : Bool :=
  decide (((implTable decls).map (fun i => (i.op, i.lhs, i.rhs))).Nodup)

/-- It is enough to compare the operand pairs of the impls of one operator at a time: the form the
kernel evaluates, with a quarter of the comparisons and none of an operator. -/
theorem unambiguous_of_forall_op (decls : List TyDecl)
    (h : ∀ op ∈ BinOp.all,
      (((implTable decls).filter (·.op == op)).map (fun i => (i.lhs, i.rhs))).Nodup) :
    unambiguous decls = true := by
  simp only [List.Nodup, List.pairwise_map, List.pairwise_filter] at h
  simp only [unambiguous, decide_eq_true_eq, List.Nodup, List.pairwise_map]
  rw [List.pairwise_iff_forall_sublist]
  intro a b hab e
  have ha : a.op ∈ BinOp.all := by cases a.op <;> decide
  simp only [Prod.mk.injEq] at e
  exact List.pairwise_iff_forall_sublist.mp (h a.op ha) hab (by simp) (by simp [e.1]) (by simp [e.2])

theorem catalogue_result_unique : unambiguous (declsOf Gen.Catalogue.items) = true :=
  unambiguous_of_forall_op _ (by decide +kernel)
theorem astro_result_unique : unambiguous (declsOf Gen.Astro.items) = true :=
  unambiguous_of_forall_op _ (by decide +kernel)
theorem synth_result_unique : unambiguous (declsOf Gen.Synth.items) = true :=
  unambiguous_of_forall_op _ (by decide +kernel)

/-- the catalogue generates 34 derived operator instances from 9 derivations -/
theorem catalogue_derived_impl_count :
    ((declsOf Gen.Catalogue.items).flatMap derivedImpls).length = 34 ∧
    ((declsOf Gen.Catalogue.items).filter (fun d => d.derived.isSome)).length = 9 := by decide +kernel

def dimOf (n : Text) : Option Spec.Dim.Vec :=
  (Spec.Dim.table.find? (fun p => Text.ofString p.1 == n)).map (·.2)

def vadd (a b : Spec.Dim.Vec) : Spec.Dim.Vec := List.zipWith (· + ·) a b
def vsub (a b : Spec.Dim.Vec) : Spec.Dim.Vec := List.zipWith (· - ·) a b

/-- every generated operator instance is dimensionally consistent with the independent SI
dimension vectors: `dim Out = dim L + dim R` for `*`, `dim L - dim R` for `/`
(this is what catches a derivation attached to the wrong operand types) -/
def dimensionConsistent (decls : List TyDecl) : Bool :=
  (implTable decls).all (fun i =>
    match i.op, dimOf i.lhs, dimOf i.rhs, dimOf i.out with
    | .mul, some a, some b, some c => vadd a b == c
    | .div, some a, some b, some c => vsub a b == c
    | .add, some a, some b, some c => a == b && a == c
    | .sub, some a, some b, some c => a == b && a == c
    | .eq, some a, some b, _ => a == b
    | .lt, some a, some b, _ => a == b
    | _, _, _, _ => false)

theorem catalogue_dimension_consistent : dimensionConsistent (declsOf Gen.Catalogue.items) = true := by
  decide +kernel

/-- non-vacuity: the specification is not trivially permissive -/
example : TypingSpec.result (declsOf Gen.Catalogue.items) .mul (Text.ofString "Mass") (Text.ofString "Length") = none ∧
    TypingSpec.result (declsOf Gen.Catalogue.items) .mul (Text.ofString "Force") (Text.ofString "Length")
      = some (Text.ofString "Energy") ∧
    TypingSpec.result (declsOf Gen.Catalogue.items) .div amountName (Text.ofString "Mass") = none ∧
    TypingSpec.result (declsOf Gen.Catalogue.items) .div amountName (Text.ofString "Duration")
      = some (Text.ofString "Frequency") := by decide +kernel

end Qty.C06
