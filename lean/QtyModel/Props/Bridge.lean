import QtyModel.Props.C01
import QtyModel.Props.C05
import QtyModel.Props.C09Keys
import QtyModel.Props.C11
import QtyModel.Props.C18
import QtyModel.Lemmas.F64Laws
import QtyModel.Lemmas.ListFind
import QtyModel.Lemmas.MacroFront
import QtyModel.Props.C09
import QtyModel.Lemmas.DecLaws
/-
  The table hypotheses of the run-time theorems (C01 … C05, C13, C18: `T.ref ∈ T.units`,
  `T.fitIdentity = none`, finite positive scales, eligible units in non-decreasing scale order)
  discharged for every table `RTable.ofDef R d = some T` of an accepted definition
  `expand it = .ok d` with reference unit.  Beyond the `ofDef_*` lemmas the other files use such a
  table through `Scaled R T sc` (finite positive scales `sc`) and `LitOne R` (how the back-end
  compiles the value one).

  Three statements need more than one would expect, each with a kernel-checked witness:
   * "the reference unit has scale one" needs `RefIdentUnique d` (no other unit carries the
     identifier of the reference unit): `ref_scale_one_needs_unique_ident`.  `REF_UNIT` is resolved
     by NAME; the macro does not reject a `#[unit]` repeating the name of the `#[ref_unit]`
     (rustc rejects the `enum` afterwards).
   * "the f64 scale IS the sort key" holds bit for bit except for a float literal `-0.0`
     (scale `-0.0`, key `+0.0`): `scale_eq_sortKey_needs_no_negative_zero`; value and comparison
     behaviour agree unconditionally, which is all the sortedness needs.
   * decimal sortedness needs `KeysFaithful d`: `fit_spec_dec_needs_faithful` exhibits an accepted
     definition on which the conclusion of `C05.fit_spec` is FALSE in the decimal back-end.
-/
namespace Qty.Bridge
open Qty.MacroFront

theorem all_isSome_eq_map_some {α : Type} : ∀ (l : List (Option α)),
    l.all Option.isSome = true → l = (l.filterMap id).map some
  | [], _ => rfl
  | none :: l, h => by simp at h
  | some x :: l, h => congrArg (some x :: ·) (all_isSome_eq_map_some l h)

/-- a relation on list elements, read through the indices -/
theorem pairwise_range_of_pairwise {α : Type} (l : List α) (r : α → α → Prop) (s : Nat → Nat → Prop)
    (h : l.Pairwise r) (hrs : ∀ i j (hi : i < l.length) (hj : j < l.length), r l[i] l[j] → s i j) :
    (List.range l.length).Pairwise s := by
  rw [List.pairwise_iff_getElem]
  intro i j hi hj hij
  simp only [List.length_range] at hi hj
  simp only [List.getElem_range]
  exact hrs i j hi hj ((List.pairwise_iff_getElem.mp h) i j hi hj hij)

section shape
variable {A : Type} {R : Arith A} {d : QtyDef} {T : RTable A}

/-- the scale column `ofDef` computes: `Amnt!(literal)` per unit -/
def litScales (R : Arith A) (d : QtyDef) : List (Option A) :=
  d.units.map (fun u => match u.scale with
    | some l => R.ofLit l
    | none => none)

theorem litScales_length (hall : (litScales R d).all Option.isSome = true) :
    ((litScales R d).filterMap id).length = d.units.length := by
  have := congrArg List.length (all_isSome_eq_map_some _ hall)
  rw [List.length_map] at this
  rw [← this, litScales, List.length_map]

variable (hk : d.kind = .withRef) (hT : RTable.ofDef R d = some T)
include hk hT

/-- every `Amnt!(literal)` compiled, and the table is the record `ofDef` builds in that case -/
theorem ofDef_inv :
    (litScales R d).all Option.isSome = true ∧
    T = { name := d.name, kind := .withRef, units := d.units.toArray, derived := d.derived
          refIx := (match d.refIdent with
            | none => none
            | some r => d.units.findIdx? (fun u => u.ident == r))
          scales := ((litScales R d).filterMap id).toArray } := by
  unfold RTable.ofDef at hT
  simp only [hk, beq_self_eq_true, if_true] at hT
  split at hT
  · next hall => cases hT; exact ⟨hall, rfl⟩
  · cases hT

theorem ofDef_n : T.n = d.units.length := by
  obtain ⟨-, rfl⟩ := ofDef_inv hk hT
  exact List.size_toArray

theorem ofDef_kind : T.kind = .withRef := by
  obtain ⟨-, rfl⟩ := ofDef_inv hk hT
  rfl

/-- `_fit` is not overridden: only `AmountT` itself does that -/
theorem ofDef_fitIdentity : (T.qt R).fitIdentity = none := by
  obtain ⟨-, rfl⟩ := ofDef_inv hk hT
  rfl

theorem ofDef_scale (u : Nat) (hu : u < d.units.length) :
    ∃ l, d.units[u].scale = some l ∧ R.ofLit l = some (T.scaleOf R u) := by
  obtain ⟨hall, rfl⟩ := ofDef_inv hk hT
  have h := all_isSome_eq_map_some _ hall
  have hu' := (litScales_length hall).symm ▸ hu
  unfold RTable.scaleOf
  generalize (litScales R d).filterMap id = sc at h hu' ⊢
  have h2 := congrArg (·[u]?) h
  simp only [litScales, List.getElem?_map, List.getElem?_eq_getElem hu, List.getElem?_eq_getElem hu',
    Option.map_some, Option.some.injEq] at h2
  cases hs : d.units[u].scale with
  | none => rw [hs] at h2; cases h2
  | some l => rw [hs] at h2; exact ⟨l, rfl, by simpa [hu'] using h2⟩

end shape

section macroFacts
open Qty.C09 Qty.C11

/-- a definition accepted with a reference unit is the stable `keyLe`-sort of the reference unit
(given the literal `1.0`) followed by the `#[unit]` attributes, each of which carries a scale -/
theorem expand_withRef {it : RawItem} {d : QtyDef} (h : expand it = .ok d) (hk : d.kind = .withRef) :
    ∃ r rd us, d.refIdent = some r ∧ rd.ident = r ∧ rd.scale = some litOne ∧
      (∀ u ∈ rd :: us, HasScale u) ∧ d.units = isort keyLe (rd :: us) := by
  obtain ⟨r, hr⟩ := refIdent_of_withRef d hk
  have hwf : WellFormedRaw it = true := (expand_ok_iff it).mp ⟨d, h⟩
  obtain ⟨dc, dv, hd, -, rfl⟩ := expand_ok_inv it d h
  obtain ⟨-, -, -, -, us, hus, -, hc⟩ := declared_ok_spec it dc hd
  rcases hc with ⟨-, rfl⟩ | ⟨ra, rd, hra, hpr, hsc, rfl⟩
  · simp at hr
  · simp only [Option.some.injEq] at hr
    subst hr
    refine ⟨_, { rd with scale := some litOne }, us, rfl, rfl, rfl, ?_, rfl⟩
    intro u hu
    rcases List.mem_cons.mp hu with rfl | hu
    · rfl
    · obtain ⟨a, ha, hpa⟩ := List.mem_filterMap.mp (hus ▸ hu)
      exact unit_scale_of_wf hwf hra ha hpa

variable {it : RawItem} {d : QtyDef} (h : expand it = .ok d) (hk : d.kind = .withRef)
include h hk

theorem units_have_scale : ∀ u ∈ d.units, HasScale u := by
  obtain ⟨r, rd, us, -, -, -, hus, hu⟩ := expand_withRef h hk
  intro u hm
  rw [hu] at hm
  exact hus u ((isort_perm keyLe _).mem_iff.mp hm)

/-- iteration order is non-decreasing in the `f64` sort key: `keyLe` is a total preorder on units
that carry a scale literal (`C09Keys`), and all units do -/
theorem units_sorted_keyLe : d.units.Pairwise (fun a b => keyLe a b = true) := by
  obtain ⟨r, rd, us, -, -, -, hus, hu⟩ := expand_withRef h hk
  rw [hu]
  exact isort_sorted_on keyLe HasScale keyLe_total keyLe_trans _ hus

theorem ref_unit_mem : ∃ r, d.refIdent = some r ∧ ∃ u ∈ d.units, u.ident = r ∧ u.scale = some litOne := by
  obtain ⟨r, rd, us, hr, hri, hrs, -, hu⟩ := expand_withRef h hk
  refine ⟨r, hr, rd, ?_, hri, hrs⟩
  rw [hu]
  exact (isort_perm keyLe _).mem_iff.mpr (List.mem_cons_self ..)

end macroFacts

/-- no other unit shares the variant identifier of the reference unit (rustc rejects an `enum`
with two variants of one name, so every table that is actually generated satisfies this) -/
def RefIdentUnique (d : QtyDef) : Prop :=
  ∀ u ∈ d.units, ∀ v ∈ d.units, d.refIdent = some u.ident → v.ident = u.ident → u = v

instance (d : QtyDef) : Decidable (RefIdentUnique d) := by
  unfold RefIdentUnique; infer_instance

theorem refIdentUnique_of_nodup (d : QtyDef) (hn : (d.units.map (·.ident)).Nodup) :
    RefIdentUnique d :=
  fun _ hu _ hv _ hvu => (List.inj_on_of_nodup_map hn hu hv hvu.symm)

section refUnit
variable {A : Type} {R : Arith A} {it : RawItem} {d : QtyDef} (h : expand it = .ok d)
  (hk : d.kind = .withRef) {T : RTable A} (hT : RTable.ofDef R d = some T)
include h hk hT

/-- `REF_UNIT` is the index of the first unit carrying the reference identifier -/
theorem ofDef_ref :
    ∃ r, d.refIdent = some r ∧ T.refIx = some (T.qt R).ref ∧
      ∃ hi : (T.qt R).ref < d.units.length, d.units[(T.qt R).ref].ident = r ∧
        ∀ j (hj : j < (T.qt R).ref), (d.units[j]'(hj.trans hi)).ident ≠ r := by
  obtain ⟨r, hr, u, hu, hui, -⟩ := ref_unit_mem h hk
  have key : ∃ i, T.refIx = some i ∧ ∃ hi : i < d.units.length, d.units[i].ident = r ∧
      ∀ j (hj : j < i), (d.units[j]'(hj.trans hi)).ident ≠ r := by
    obtain ⟨-, rfl⟩ := ofDef_inv hk hT
    simp only [hr]
    cases hf : d.units.findIdx? (fun u => u.ident == r) with
    | none =>
      have := (List.findIdx?_eq_none_iff.mp hf) u hu
      simp [hui] at this
    | some i =>
      obtain ⟨hi, hp, hlt⟩ := List.findIdx?_eq_some_iff_getElem.mp hf
      exact ⟨i, rfl, hi, by simpa using hp, fun j hj => by simpa using hlt j hj⟩
  obtain ⟨i, hix, hi, hid, hlt⟩ := key
  obtain rfl : (T.qt R).ref = i := by simp [RTable.qt, hix]
  exact ⟨r, hr, hix, hi, hid, hlt⟩

theorem ofDef_ref_mem : (T.qt R).ref ∈ (T.qt R).units := by
  obtain ⟨-, -, -, hi, -⟩ := ofDef_ref h hk hT
  exact List.mem_range.mpr (ofDef_n hk hT ▸ hi)

theorem ofDef_ref_lit (huniq : RefIdentUnique d) :
    ∃ hi : (T.qt R).ref < d.units.length, d.units[(T.qt R).ref].scale = some litOne := by
  obtain ⟨r, hr, -, hi, hid, -⟩ := ofDef_ref h hk hT
  obtain ⟨r', hr', u, hu, hui, hus⟩ := ref_unit_mem h hk
  cases hr.symm.trans hr'
  have : u = d.units[(T.qt R).ref] :=
    huniq u hu _ (List.getElem_mem hi) (by rw [hr, hui]) (by rw [hid, hui])
  exact ⟨hi, this ▸ hus⟩

end refUnit

section shapeSummary
variable {A : Type} (R : Arith A)
variable (it : RawItem) (d : QtyDef) (h : expand it = .ok d) (hk : d.kind = .withRef)
variable (T : RTable A) (hT : RTable.ofDef R d = some T)
include h hk hT

/-- everything the run-time theorems assume about the shape of a table,
for every table generated from an accepted definition with reference unit -/
theorem ofDef_shape :
    T.units = d.units.toArray ∧ T.n = d.units.length ∧ T.scales.size = T.n ∧
    T.isAmount = false ∧ (T.qt R).fitIdentity = none ∧
    (T.qt R).units = List.range d.units.length ∧
    (∃ r i, d.refIdent = some r ∧ T.refIx = some i ∧ i < T.n ∧ (T.qt R).ref = i ∧
      ∃ hi : i < d.units.length, d.units[i].ident = r) ∧
    (T.qt R).ref ∈ (T.qt R).units ∧
    (∀ u (hu : u < d.units.length), ∃ l, d.units[u].scale = some l ∧
      R.ofLit l = some ((T.qt R).scale u)) := by
  have hn := ofDef_n hk hT
  have hm := ofDef_ref_mem h hk hT
  have hsc := ofDef_scale hk hT
  obtain ⟨r, hr, hix, hi, hid, -⟩ := ofDef_ref h hk hT
  obtain ⟨hall, rfl⟩ := ofDef_inv hk hT
  refine ⟨rfl, hn, ?_, rfl, rfl, congrArg List.range hn, ⟨r, _, hr, hix, hn ▸ hi, rfl, hi, hid⟩, hm,
    hsc⟩
  show (List.filterMap id (litScales R d)).toArray.size = d.units.toArray.size
  rw [List.size_toArray, List.size_toArray, litScales_length hall]

end shapeSummary

/-- what the magnitude, totality and rate theorems use of a table: it is of the kind with reference
unit and every unit `u < T.n` has the finite positive scale `sc u` -/
structure Scaled {A : Type} (R : Arith A) (T : RTable A) (sc : Nat → Rat) : Prop where
  kind : T.kind = .withRef
  val : ∀ {u}, u < T.n → R.val ((T.qt R).scale u) = some (sc u)
  pos : ∀ {u}, u < T.n → 0 < sc u

/-- in the form the derived-operator theorems of C04 take the scales of the result table -/
theorem Scaled.of_mem {A : Type} {R : Arith A} {T : RTable A} {sc : Nat → Rat} (hs : Scaled R T sc)
    (u : Nat) (hu : u ∈ (T.qt R).units) : R.val ((T.qt R).scale u) = some (sc u) ∧ 0 < sc u :=
  have h := List.mem_range.mp hu
  ⟨hs.val h, hs.pos h⟩

theorem amount_scale {A : Type} (R : Arith A) (u : Nat) :
    ((RTable.amount R).qt R).scale u = R.one := by
  show (#[R.one] : Array A).getD u R.one = R.one
  cases u <;> rfl

/-- the dimensionless `AmountT`: one unit `One` of scale `AmountT::ONE` -/
theorem scaled_amount {A : Type} {R : Arith A} {M : ErrModel} (L : Laws R M) :
    Scaled R (RTable.amount R) (fun _ => 1) :=
  ⟨rfl, fun _ => by rw [amount_scale]; exact L.one_val, fun _ => one_pos⟩

/-- how a back-end compiles scale literals, as far as the value one is concerned: the literal `1.0`
compiles to an amount of value one, and a literal whose compiled amount `==` finds equal to an amount
of value one has a sort key that is not below the key of `1.0` -/
structure LitOne {A : Type} (R : Arith A) : Prop where
  one : ∀ x, R.ofLit litOne = some x → R.val x = some 1
  key : ∀ l x s, R.ofLit l = some x → R.val s = some 1 → R.beq x s = true →
    ∀ rd u : UnitDef, rd.scale = some litOne → u.scale = some l → keyLe rd u = true

/-- the reference unit has scale value one, provided no other unit shares its identifier -/
theorem ref_scale_one {A : Type} {R : Arith A} (B : LitOne R) {it : RawItem} {d : QtyDef}
    (h : expand it = .ok d) (hk : d.kind = .withRef) {T : RTable A}
    (hT : RTable.ofDef R d = some T) (huniq : RefIdentUnique d) :
    R.val ((T.qt R).scale (T.qt R).ref) = some 1 := by
  obtain ⟨hi, hsc⟩ := ofDef_ref_lit h hk hT huniq
  obtain ⟨l, hl, hof⟩ := ofDef_scale hk hT _ hi
  cases hsc.symm.trans hl
  exact B.one _ hof

section decimal
open Qty.C09

theorem litOne_value : litOne.value = 1 := by decide +kernel

/-- a literal of exact value one has the sort key `1.0` (`round 1 = 1.0`) -/
theorem keyLe_of_lit_one (rd u : UnitDef) (l : Lit) (hrs : rd.scale = some litOne)
    (hl : u.scale = some l) (h1 : l.value = 1) : keyLe rd u = true :=
  keyLe_of_sortKey_eq (by rw [sortKey_of_scale hrs, sortKey_of_scale hl, h1, litOne_value])

theorem litOne_dec : LitOne Dec.arith where
  one x h := by rw [Dec.ofLit_val litOne x h, litOne_value]
  key l x s h hs hb rd u hrd hu := by
    exact keyLe_of_lit_one rd u l hrd hu ((Dec.laws.beq_iff (Dec.ofLit_val l x h) hs).mp hb)

/-- the exact scale of unit `u` of a definition: the value of its literal (`0` if there is none,
which does not happen in a definition with reference unit) -/
def litVal (d : QtyDef) (u : Nat) : Rat :=
  match d.units[u]? with
  | some ud => (match ud.scale with
    | some l => l.value
    | none => 0)
  | none => 0

def LitsPositive (d : QtyDef) : Bool :=
  d.units.all (fun u => match u.scale with
    | some l => decide (0 < l.value)
    | none => true)

/-- what a predicate on the scale literals says of the literal of one unit -/
theorem lits_all {d : QtyDef} {p : Lit → Bool}
    (h : d.units.all (fun u => match u.scale with
      | some l => p l
      | none => true) = true)
    {u : Nat} (hu : u < d.units.length) {l : Lit} (hl : d.units[u].scale = some l) : p l = true := by
  have := List.all_eq_true.mp h _ (List.getElem_mem hu)
  rwa [hl] at this

theorem litVal_eq {d : QtyDef} {u : Nat} (hu : u < d.units.length) {l : Lit}
    (hl : d.units[u].scale = some l) : litVal d u = l.value := by
  unfold litVal
  rw [List.getElem?_eq_getElem hu]
  simp only [hl]

variable (d : QtyDef) (hk : d.kind = .withRef) (T : RTable Dec)
  (hT : RTable.ofDef Dec.arith d = some T)
include hk hT

/-- the scale of every unit of a generated decimal table is finite and is EXACTLY the value
of that unit's scale literal -/
theorem dec_scale_value (u : Nat) (hu : u < d.units.length) :
    ∃ l, d.units[u].scale = some l ∧ Dec.arith.val (T.scaleOf Dec.arith u) = some l.value := by
  obtain ⟨l, hl, hof⟩ := ofDef_scale hk hT u hu
  exact ⟨l, hl, Dec.ofLit_val l _ hof⟩

variable {d T} in
theorem dec_scale_litVal (u : Nat) (hu : u < T.n) :
    Dec.arith.val ((T.qt Dec.arith).scale u) = some (litVal d u) := by
  rw [ofDef_n hk hT] at hu
  obtain ⟨l, hl, hv⟩ := dec_scale_value d hk T hT u hu
  rw [litVal_eq hu hl]
  exact hv

variable {d T} in
theorem scaled_dec (hp : LitsPositive d = true) : Scaled Dec.arith T (litVal d) where
  kind := ofDef_kind hk hT
  val := dec_scale_litVal hk hT _
  pos hu := by
    rw [ofDef_n hk hT] at hu
    obtain ⟨l, hl, -⟩ := ofDef_scale hk hT _ hu
    rw [litVal_eq hu hl]
    exact of_decide_eq_true (lits_all hp hu hl)

end decimal

section binary
open Qty.C09

theorem litOne_f64 : LitOne F64.arith where
  one x h := by
    rw [F64.ofLit_eq litOne x h, litOne_value]
    exact F64.val_round_one _
  key l x s h hs hb rd u hrd hu := by
    -- the key `round l.value false` and the compiled scale `x = round l.value sign` differ at most
    -- in the sign of zero, which `partial_cmp` ignores; `x == s` with `s` of value one then puts
    -- the key of `1.0` at or below the key of `u`
    rw [keyLe_eq, sortKey_of_scale hrd, sortKey_of_scale hu, f64Le,
      ← F64.pcmp_round_sign _ _ false (l.isFloat && l.neg), ← F64.ofLit_eq l x h, litOne_value]
    exact f64Le_of_beq _ x s 1 (F64.val_round_one _) hs hb

/-- exact value of a finite `f64` (`0` for NaN / ±inf) -/
def f64Val (a : F64) : Rat := (F64.val a).getD 0

theorem f64Val_of_val {a : F64} {x : Rat} (h : F64.val a = some x) : f64Val a = x := by
  unfold f64Val; rw [h]; rfl

theorem f64Val_spec (a : F64) (hfin : (F64.val a).isSome = true) : F64.val a = some (f64Val a) := by
  obtain ⟨x, hx⟩ := Option.isSome_iff_exists.mp hfin
  rw [f64Val_of_val hx, hx]

/-- exact value of the `f64` scale of unit `u` (`0` if it is not finite).  `f64Sc T u` unfolds to
`f64Val (T.scaleOf F64.arith u)`, which the statements about C01 and C05 below spell out, and
`(T.qt R).scale` is `T.scaleOf R` by `rfl`: the four spellings are one -/
def f64Sc (T : RTable F64) (u : Nat) : Rat := f64Val (T.scaleOf F64.arith u)

variable (it : RawItem) (d : QtyDef) (h : expand it = .ok d) (hk : d.kind = .withRef)
variable (T : RTable F64) (hT : RTable.ofDef F64.arith d = some T)
include hk hT

variable {d T} in
/-- the scale of unit `u` of a generated binary table is the correctly rounded value of its
scale literal; integer literals beyond `i32` do not occur (they do not compile) -/
theorem f64_scale_eq (u : Nat) (hu : u < d.units.length) :
    ∃ l, d.units[u].scale = some l ∧
      T.scaleOf F64.arith u = F64.round l.value (l.isFloat && l.neg) := by
  obtain ⟨l, hl, hof⟩ := ofDef_scale hk hT u hu
  exact ⟨l, hl, F64.ofLit_eq l _ hof⟩

/-- the scale IS the sort key `opt_lit_to_f64` of that unit, bit for bit, unless the literal is a
negative float zero (`-0.0`: the scale is `-0.0`, the key `+0.0`; the two compare equal) -/
theorem f64_scale_eq_sortKey (u : Nat) (hu : u < d.units.length)
    (hz : ∀ l, d.units[u].scale = some l → l.value ≠ 0 ∨ l.neg = false ∨ l.isFloat = false) :
    T.scaleOf F64.arith u = sortKey d.units[u] := by
  obtain ⟨l, hl, he⟩ := f64_scale_eq hk hT u hu
  rw [he, sortKey_of_scale hl]
  rcases hz l hl with h0 | h0 | h0
  · exact F64.round_sign_irrel _ _ _ h0
  · simp [h0]
  · simp [h0]

/-- unconditionally, scale and sort key have the same value -/
theorem f64_scale_val_eq_sortKey (u : Nat) (hu : u < d.units.length) :
    F64.arith.val (T.scaleOf F64.arith u) = F64.arith.val (sortKey d.units[u]) := by
  obtain ⟨l, hl, he⟩ := f64_scale_eq hk hT u hu
  rw [he, sortKey_of_scale hl]
  exact F64.val_round_sign _ _

variable {d T} in
/-- scales compare as sort keys do (they differ at most in the sign of zero, `F64.pcmp_round_sign`):
the run-time order of the scales is the order the macro sorted by -/
theorem f64Le_scale_eq_keyLe (u v : Nat) (hu : u < d.units.length) (hv : v < d.units.length) :
    f64Le (T.scaleOf F64.arith u) (T.scaleOf F64.arith v) = keyLe d.units[u] d.units[v] := by
  obtain ⟨l, hl, he⟩ := f64_scale_eq hk hT u hu
  obtain ⟨l', hl', he'⟩ := f64_scale_eq hk hT v hv
  rw [keyLe_eq, he, he', sortKey_of_scale hl, sortKey_of_scale hl', f64Le, f64Le, F64.pcmp_round_sign]

include h

/-- the iteration order of a generated binary table is non-decreasing in the scales as the
amount type compares them (`partial_cmp` is never `Greater` from an earlier to a later unit) —
no hypothesis, infinite scales (overflowing literals) included -/
theorem f64_scales_sorted :
    (List.range T.n).Pairwise
      (fun u v => f64Le (T.scaleOf F64.arith u) (T.scaleOf F64.arith v) = true) := by
  rw [ofDef_n hk hT]
  refine pairwise_range_of_pairwise d.units _ _ (units_sorted_keyLe h hk) ?_
  intro i j hi hj hij
  rw [f64Le_scale_eq_keyLe hk hT i j hi hj]
  exact hij

variable {it d T} in
/-- in terms of exact values, wherever the scales are finite -/
theorem f64_values_sorted
    (hfin : ∀ u, u < T.n → (F64.arith.val (T.scaleOf F64.arith u)).isSome = true) :
    (List.range T.n).Pairwise (fun u v => f64Sc T u ≤ f64Sc T v) :=
  (f64_scales_sorted it d h hk T hT).imp_of_mem fun hu hv huv =>
    (f64Le_val _ _ _ _ (f64Val_spec _ (hfin _ (List.mem_range.mp hu)))
      (f64Val_spec _ (hfin _ (List.mem_range.mp hv)))).mp huv

end binary

section fitF64

/-- the conclusion of `C05.fit_spec`: the unit `w` chosen for the magnitude `xv` is a largest
eligible unit whose scale does not exceed the magnitude, or no eligible scale is `≤` the magnitude
and `w` is a smallest eligible unit -/
def FitSpec {A : Type} (T : QT A Nat) (sc : Nat → Rat) (xv : Rat) (w : Nat) : Prop :=
  w ∈ eligible T ∧
  ((sc w ≤ xv ∧ ∀ v ∈ eligible T, sc v ≤ xv → sc v ≤ sc w) ∨
   ((∀ v ∈ eligible T, xv < sc v) ∧ ∀ v ∈ eligible T, sc w ≤ sc v))

instance {A : Type} (T : QT A Nat) (sc : Nat → Rat) (xv : Rat) (w : Nat) :
    Decidable (FitSpec T sc xv w) := by
  unfold FitSpec; infer_instance

theorem eligible_lt {A : Type} (R : Arith A) (T : RTable A) (u : Nat) (hu : u ∈ eligible (T.qt R)) :
    u < T.n :=
  List.mem_range.mp ((C05.mem_eligible (T.qt R) u).mp hu).1

variable (it : RawItem) (d : QtyDef) (h : expand it = .ok d) (hk : d.kind = .withRef)
variable (T : RTable F64) (hT : RTable.ofDef F64.arith d = some T)
include h hk hT

/-- `C05.fit_spec` for EVERY generated table of the binary back-end: no hypothesis on the
table is left, only finiteness of the scales and of the magnitude -/
theorem fit_spec_generated_f64
    (hfin : ∀ u, u < T.n → (F64.arith.val (T.scaleOf F64.arith u)).isSome = true)
    (x : F64) (xv : Rat) (hx : F64.arith.val x = some xv) (r : Q F64 Nat)
    (hfit : fit F64.arith (T.qt F64.arith) x = .ok r) :
    FitSpec (T.qt F64.arith) (fun u => f64Val (T.scaleOf F64.arith u)) xv r.unit :=
  C05.fit_spec F64.arith F64.laws (T.qt F64.arith) (ofDef_fitIdentity hk hT) (f64Sc T)
    (fun u hu => f64Val_spec _ (hfin u (eligible_lt F64.arith T u hu)))
    ((f64_values_sorted h hk hT hfin).filter _) x xv hx r hfit

variable {it d T} in
/-- and `_fit` does return a value (`C18.f64_fit_total` with `ref ∈ units` discharged) -/
theorem fit_total_generated_f64
    (hfin : ∀ u, u < T.n → (F64.arith.val (T.scaleOf F64.arith u)).isSome = true)
    (x : F64) (xv : Rat) (hx : F64.arith.val x = some xv) :
    ∃ r, fit F64.arith (T.qt F64.arith) x = .ok r ∧
      FitSpec (T.qt F64.arith) (fun u => f64Val (T.scaleOf F64.arith u)) xv r.unit := by
  obtain ⟨r, hr⟩ := C18.f64_fit_total (T.qt F64.arith) (ofDef_ref_mem h hk hT) x
  exact ⟨r, hr, fit_spec_generated_f64 it d h hk T hT hfin x xv hx r hr⟩

end fitF64

section fitDec

variable (it : RawItem) (d : QtyDef) (h : expand it = .ok d) (hk : d.kind = .withRef)
include h hk

variable {it d} in
/-- with a faithful key the units are iterated in non-decreasing order of their EXACT scales -/
theorem litVal_sorted (hkf : KeysFaithful d = true) :
    (List.range d.units.length).Pairwise (fun u v => litVal d u ≤ litVal d v) := by
  refine pairwise_range_of_pairwise d.units _ _ (units_sorted_keyLe h hk) ?_
  intro i j hi hj hij
  have hf := (List.all_eq_true.mp ((List.all_eq_true.mp hkf) d.units[i] (List.getElem_mem hi)))
    d.units[j] (List.getElem_mem hj)
  obtain ⟨x, hx⟩ := Option.isSome_iff_exists.mp
    (units_have_scale h hk d.units[i] (List.getElem_mem hi))
  obtain ⟨y, hy⟩ := Option.isSome_iff_exists.mp
    (units_have_scale h hk d.units[j] (List.getElem_mem hj))
  rw [litVal_eq hi hx, litVal_eq hj hy]
  simpa [hx, hy, hij] using hf

variable (T : RTable Dec) (hT : RTable.ofDef Dec.arith d = some T)
include hT

/-- `C05.fit_spec` for every generated table of the decimal back-end whose definition has a
faithful sort key; the scales are the exact literal values `litVal d` -/
theorem fit_spec_generated_dec (hkf : KeysFaithful d = true)
    (x : Dec) (xv : Rat) (hx : Dec.arith.val x = some xv) (r : Q Dec Nat)
    (hfit : fit Dec.arith (T.qt Dec.arith) x = .ok r) :
    FitSpec (T.qt Dec.arith) (litVal d) xv r.unit :=
  C05.fit_spec Dec.arith Dec.laws (T.qt Dec.arith) (ofDef_fitIdentity hk hT) (litVal d)
    (fun u hu => dec_scale_litVal hk hT u (eligible_lt Dec.arith T u hu))
    ((ofDef_n hk hT ▸ litVal_sorted h hk hkf).filter _) x xv hx r hfit

end fitDec

section convert

/-- `C01.convert_mag` for every generated decimal table with positive scale literals: the
hypotheses "the two scales are finite, the target scale is non-zero" are discharged, the scales
are the exact literal values -/
theorem convert_mag_generated_dec (d : QtyDef) (hk : d.kind = .withRef)
    (T : RTable Dec) (hT : RTable.ofDef Dec.arith d = some T) (hp : LitsPositive d = true)
    (q : Q Dec Nat) (u : Nat) (hq : q.unit < T.n) (hu : u < T.n) (hne : q.unit ≠ u)
    (a : Rat) (ha : Dec.arith.val q.amount = some a)
    (hsafe : Oracle.convSafe ErrModel.dec (litVal d q.unit) (litVal d u) a = true) :
    ∃ r y, convert Dec.arith (T.qt Dec.arith) q u = .ok r ∧ r.unit = u ∧
      Dec.arith.val r.amount = some y ∧
      ratAbs (y * litVal d u - a * litVal d q.unit) ≤
        Oracle.convBound ErrModel.dec (litVal d q.unit) (litVal d u) a :=
  have hs := scaled_dec hk hT hp
  C01.convert_mag Dec.arith (T.qt Dec.arith) Dec.laws q u _ _ a hne (hs.val hq) (hs.val hu)
    (hs.pos hu).ne' ha hsafe

/-- every scale literal lies in `[2^-1073, 2^1023)`: below `2^1023` the rounded literal is finite,
from `2^-1073` on it is positive (`F64.round_pos`); the range includes subnormal values -/
def LitsNormalF64 (d : QtyDef) : Bool :=
  d.units.all (fun u => match u.scale with
    | some l => decide (F64.pow2 (-1073) ≤ l.value) && ErrModel.f64.safe l.value
    | none => true)

/-- a generated binary64 table with scale literals in `[2^-1073, 2^1023)`: the scales are finite
and positive, `f64Sc T` are their exact values -/
theorem scaled_f64 {d : QtyDef} (hk : d.kind = .withRef) {T : RTable F64}
    (hT : RTable.ofDef F64.arith d = some T) (hp : LitsNormalF64 d = true) :
    Scaled F64.arith T (f64Sc T) := by
  have key : ∀ {u}, u < T.n →
      F64.arith.val ((T.qt F64.arith).scale u) = some (f64Sc T u) ∧ 0 < f64Sc T u := by
    intro u hu
    rw [ofDef_n hk hT] at hu
    obtain ⟨l, hl, he⟩ := f64_scale_eq hk hT u hu
    have := lits_all hp hu hl
    simp only [Bool.and_eq_true, decide_eq_true_eq] at this
    obtain ⟨z, hz, hpos⟩ := F64.round_pos l.value (l.isFloat && l.neg) this.1 this.2
    rw [← he] at hz
    rw [show f64Sc T u = z from f64Val_of_val hz]
    exact ⟨hz, hpos⟩
  exact ⟨ofDef_kind hk hT, fun hu => (key hu).1, fun hu => (key hu).2⟩

/-- the same for the binary back-end: literals in `[2^-1073, 2^1023)` give finite positive
scales, so `C01.convert_mag` applies with `s = ` the exact value of the rounded literal -/
theorem convert_mag_generated_f64 (d : QtyDef) (hk : d.kind = .withRef)
    (T : RTable F64) (hT : RTable.ofDef F64.arith d = some T) (hp : LitsNormalF64 d = true)
    (q : Q F64 Nat) (u : Nat) (hq : q.unit < T.n) (hu : u < T.n) (hne : q.unit ≠ u)
    (a : Rat) (ha : F64.arith.val q.amount = some a)
    (hsafe : Oracle.convSafe ErrModel.f64 (f64Val (T.scaleOf F64.arith q.unit))
      (f64Val (T.scaleOf F64.arith u)) a = true) :
    ∃ r y, convert F64.arith (T.qt F64.arith) q u = .ok r ∧ r.unit = u ∧
      F64.arith.val r.amount = some y ∧
      ratAbs (y * f64Val (T.scaleOf F64.arith u) - a * f64Val (T.scaleOf F64.arith q.unit)) ≤
        Oracle.convBound ErrModel.f64 (f64Val (T.scaleOf F64.arith q.unit))
          (f64Val (T.scaleOf F64.arith u)) a :=
  have hs := scaled_f64 hk hT hp
  C01.convert_mag F64.arith (T.qt F64.arith) F64.laws q u _ _ a hne (hs.val hq) (hs.val hu)
    (hs.pos hu).ne' ha hsafe

end convert

section catalogue
open Qty.C09

/-- what kernel evaluation establishes here about one definition of the catalogue: every scale
literal is positive and far inside the `f64` range, and every literal compiles in the binary back-end
(that the `f64` sort key is faithful to the exact order is `C09.catalogue_keysFaithful`) -/
def defOk (d : QtyDef) : Bool :=
  LitsPositive d && LitsNormalF64 d && (RTable.ofDef F64.arith d).isSome

/-- the one evaluation of the catalogue: every predefined quantity (main crate, astronomical
crate) and every synthetic definition of the harness expands to a definition with `defOk`; the
literals of the main crate and of the synthetic definitions also compile in the decimal back-end
(the astronomical crate is `f64` only: its literals have more than 18 fractional digits) -/
theorem catalogue_defs_eval :
    (Gen.Catalogue.items ++ Gen.Synth.items).all
      (expandsTo fun d => defOk d && (RTable.ofDef Dec.arith d).isSome) = true ∧
    Gen.Astro.items.all (expandsTo defOk) = true := by
  constructor <;> decide +kernel

theorem mem_allItems {it : RawItem} :
    it ∈ allItems ↔ it ∈ Gen.Catalogue.items ++ Gen.Synth.items ∨ it ∈ Gen.Astro.items := by
  simp only [allItems, List.mem_append]
  exact or_right_comm

theorem catalogue_defOk (it : RawItem) (hit : it ∈ allItems) :
    ∃ d, expand it = .ok d ∧ defOk d = true := by
  rcases mem_allItems.mp hit with hit | hit
  · obtain ⟨d, h, hf⟩ := expandsTo_spec _ it (List.all_eq_true.mp catalogue_defs_eval.1 it hit)
    exact ⟨d, h, (Bool.and_eq_true_iff.mp hf).1⟩
  · exact expandsTo_spec _ it (List.all_eq_true.mp catalogue_defs_eval.2 it hit)

/-- what the evaluations `catalogue_defs_eval` and `C09.catalogue_keysFaithful` say of one
definition of the catalogue -/
structure CatalogueDef (d : QtyDef) : Prop where
  keys : KeysFaithful d = true
  pos : LitsPositive d = true
  normal : LitsNormalF64 d = true
  f64Table : ∃ T, RTable.ofDef F64.arith d = some T

theorem catalogue_expands (it : RawItem) (hit : it ∈ allItems) :
    ∃ d, expand it = .ok d ∧ CatalogueDef d := by
  obtain ⟨d, h, hf⟩ := catalogue_defOk it hit
  simp only [defOk, Bool.and_eq_true] at hf
  exact ⟨d, h, expandsTo_of_mem _ _ catalogue_keysFaithful it hit d h, hf.1.1, hf.1.2,
    Option.isSome_iff_exists.mp hf.2⟩

section oneDef
variable (it : RawItem) (hit : it ∈ allItems) (d : QtyDef) (h : expand it = .ok d)
include hit h

theorem catalogue_def : CatalogueDef d := by
  obtain ⟨d', h', hd⟩ := catalogue_expands it hit
  cases h.symm.trans h'
  exact hd

/-- no unit of the catalogue shares the identifier of its reference unit: `C09.catalogue_registry_ok`
says that the variant identifiers of every definition are pairwise different -/
theorem catalogue_ref_unique : RefIdentUnique d :=
  let ⟨_, hb⟩ := catalogue_itemOk hit
  refIdentUnique_of_nodup d (itemOk_ident_nodup hb h)

end oneDef

theorem catalogue_dec_table_exists (it : RawItem)
    (hit : it ∈ Gen.Catalogue.items ++ Gen.Synth.items) (d : QtyDef) (h : expand it = .ok d) :
    ∃ T, RTable.ofDef Dec.arith d = some T :=
  Option.isSome_iff_exists.mp
    (Bool.and_eq_true_iff.mp (expandsTo_of_mem _ _ catalogue_defs_eval.1 it hit d h)).2

/-- `C09.catalogue_keysFaithful` restated in this namespace: the `f64` sort key is faithful to the
exact order for every predefined quantity (main crate, astronomical crate) and every synthetic
definition of the harness; `CatalogueDef.keys` is what the C05 theorems below read off it -/
theorem catalogue_keys_faithful' : allItems.all (expandsTo KeysFaithful) = true :=
  catalogue_keysFaithful

/-- `_fit` chooses the best-fitting unit for every predefined quantity with reference unit
in the decimal back-end — no side condition on the table is left -/
theorem catalogue_fit_spec_dec (it : RawItem) (hit : it ∈ allItems) (d : QtyDef)
    (h : expand it = .ok d) (hk : d.kind = .withRef)
    (T : RTable Dec) (hT : RTable.ofDef Dec.arith d = some T)
    (x : Dec) (xv : Rat) (hx : Dec.arith.val x = some xv) (r : Q Dec Nat)
    (hfit : fit Dec.arith (T.qt Dec.arith) x = .ok r) :
    FitSpec (T.qt Dec.arith) (litVal d) xv r.unit :=
  fit_spec_generated_dec it d h hk T hT (catalogue_def it hit d h).keys x xv hx r hfit

/-- and in the binary back-end, where `_fit` moreover always returns -/
theorem catalogue_fit_spec_f64 (it : RawItem) (hit : it ∈ allItems) (d : QtyDef)
    (h : expand it = .ok d) (hk : d.kind = .withRef)
    (T : RTable F64) (hT : RTable.ofDef F64.arith d = some T)
    (x : F64) (xv : Rat) (hx : F64.arith.val x = some xv) :
    ∃ r, fit F64.arith (T.qt F64.arith) x = .ok r ∧
      FitSpec (T.qt F64.arith) (fun u => f64Val (T.scaleOf F64.arith u)) xv r.unit :=
  have hs := scaled_f64 hk hT (catalogue_def it hit d h).normal
  fit_total_generated_f64 h hk hT
    (fun _ hu => Option.isSome_iff_exists.mpr ⟨_, hs.val hu⟩) x xv hx

/-- the reference unit of every predefined decimal table has scale one -/
theorem catalogue_ref_scale_one_dec (it : RawItem) (hit : it ∈ allItems) (d : QtyDef)
    (h : expand it = .ok d) (hk : d.kind = .withRef)
    (T : RTable Dec) (hT : RTable.ofDef Dec.arith d = some T) :
    Dec.arith.val ((T.qt Dec.arith).scale (T.qt Dec.arith).ref) = some 1 :=
  ref_scale_one litOne_dec h hk hT (catalogue_ref_unique it hit d h)

end catalogue

/-- `it` expands to a definition with reference unit whose table exists in back-end `R`, and `p`
holds of definition and table -/
def genWitness {A : Type} (R : Arith A) (it : RawItem) (p : QtyDef → RTable A → Bool) : Bool :=
  match expand it with
  | .ok d => d.kind == .withRef && (match RTable.ofDef R d with
    | some T => p d T
    | none => false)
  | .error _ => false

theorem genWitness_spec {A : Type} (R : Arith A) (it : RawItem) (p : QtyDef → RTable A → Bool)
    (hw : genWitness R it p = true) :
    ∃ d T, expand it = .ok d ∧ d.kind = .withRef ∧ RTable.ofDef R d = some T ∧ p d T = true := by
  unfold genWitness at hw
  split at hw
  · next d he =>
    simp only [Bool.and_eq_true, beq_iff_eq] at hw
    split at hw
    · next T ho => exact ⟨d, T, he, hw.1, ho, hw.2⟩
    · cases hw.2
  · cases hw

/-- all scale literals are below `2^1023` in absolute value (the scales of the binary table are then
finite, `F64.round_ok`); the theorems ask for `LitsNormalF64`, which also gives positive scales -/
def LitsSafeF64 (d : QtyDef) : Bool :=
  d.units.all (fun u => match u.scale with
    | some l => ErrModel.f64.safe l.value
    | none => true)

/-- non-vacuity: `Length`, `Mass` of the main crate (decimal) and `Length` of the main, `Mass` of
the astronomical crate (binary64) are accepted with reference unit and have a table; key faithful,
identifier unique, binary scales finite (`LitsPositive`, `LitsNormalF64` hold of the whole
catalogue: `catalogue_defs_eval`) -/
example : genWitness Dec.arith Gen.Catalogue.lengthRaw
    (fun d _ => KeysFaithful d && decide (RefIdentUnique d)) = true := by decide +kernel
example : genWitness Dec.arith Gen.Catalogue.massRaw
    (fun d _ => KeysFaithful d && decide (RefIdentUnique d)) = true := by decide +kernel
example : genWitness F64.arith Gen.Catalogue.lengthRaw
    (fun d T => LitsSafeF64 d && decide (RefIdentUnique d) &&
      (List.range T.n).all (fun u => (F64.arith.val (T.scaleOf F64.arith u)).isSome)) = true := by
  decide +kernel
example : genWitness F64.arith Gen.Astro.massRaw (fun d _ => LitsSafeF64 d) = true := by
  decide +kernel

/-- a definition in which a `#[unit]` repeats the identifier of the `#[ref_unit]`
(`#[ref_unit(A, "a")] #[unit(A, "b", 0.5)]`; rustc rejects the generated `enum`, the macro does not) -/
def itDupRef : RawItem where
  name := [81]
  args := []
  attrs := [⟨.refUnit, [.ident [65], .comma, .str [97]]⟩,
            ⟨.unit, [.ident [65], .comma, .str [98], .comma,
                     .float { digits := 5, nfrac := 1, isFloat := true }]⟩]

/-- `ref_scale_one` needs `RefIdentUnique`: here `REF_UNIT` resolves to the FIRST variant named
`A` in iteration order, which is the unit of scale `0.5` -/
theorem ref_scale_one_needs_unique_ident :
    ∃ d T, expand itDupRef = .ok d ∧ d.kind = .withRef ∧ RTable.ofDef Dec.arith d = some T ∧
      (fun d T => !decide (RefIdentUnique d) &&
        decide (Dec.arith.val ((RTable.qt Dec.arith T).scale (RTable.qt Dec.arith T).ref) = some (1 / 2)))
        d T = true :=
  genWitness_spec Dec.arith itDupRef _ (by decide +kernel)

/-- two scale literals closer than `f64` resolution, declared in descending order
(`#[ref_unit(R, "r")] #[unit(X, "x", 1.00000000000000002)] #[unit(Y, "y", 1.00000000000000001)]`) -/
def itClose : RawItem where
  name := [81]
  args := []
  attrs := [⟨.refUnit, [.ident [82], .comma, .str [114]]⟩,
            ⟨.unit, [.ident [88], .comma, .str [120], .comma,
                     .float { digits := 100000000000000002, nfrac := 17, isFloat := true }]⟩,
            ⟨.unit, [.ident [89], .comma, .str [121], .comma,
                     .float { digits := 100000000000000001, nfrac := 17, isFloat := true }]⟩]

/-- `fit_spec_generated_dec` needs `KeysFaithful`: the three units share the
sort key `1.0`, so they stay in declaration order `R, X, Y` although `X > Y` exactly; fitting
`1.00000000000000003` then answers `Y` (the last candidate) while `X` is the largest unit whose
scale does not exceed the magnitude — the conclusion of `C05.fit_spec` fails -/
theorem fit_spec_dec_needs_faithful :
    ∃ d T, expand itClose = .ok d ∧ d.kind = .withRef ∧ RTable.ofDef Dec.arith d = some T ∧
      (fun d T => !KeysFaithful d &&
        !decide ((eligible (RTable.qt Dec.arith T)).Pairwise (fun u v => litVal d u ≤ litVal d v)) &&
        (match fit Dec.arith (RTable.qt Dec.arith T) ⟨100000000000000003, 17⟩ with
         | .ok r => r.unit == 2 &&
             decide (Dec.arith.val ⟨100000000000000003, 17⟩ = some (100000000000000003 / 10 ^ 17)) &&
             !decide (FitSpec (RTable.qt Dec.arith T) (litVal d) (100000000000000003 / 10 ^ 17) r.unit)
         | .error _ => false)) d T = true :=
  genWitness_spec Dec.arith itClose _ (by decide +kernel)

/-- a float zero written with a sign (`Tok.float` with `neg := true`; Rust's tokeniser never
produces such a literal token, the sign is a separate punctuation token which `UnitDef::parse`
rejects — but the token type of the model allows it) -/
def itNegZero : RawItem where
  name := [81]
  args := []
  attrs := [⟨.refUnit, [.ident [82], .comma, .str [114]]⟩,
            ⟨.unit, [.ident [90], .comma, .str [122], .comma,
                     .float { neg := true, digits := 0, nfrac := 1, isFloat := true }]⟩]

/-- `f64_scale_eq_sortKey` needs its hypothesis: the scale of that unit is `-0.0`, its key `+0.0` -/
theorem scale_eq_sortKey_needs_no_negative_zero :
    ∃ d T, expand itNegZero = .ok d ∧ d.kind = .withRef ∧ RTable.ofDef F64.arith d = some T ∧
      (fun d T => decide (RTable.scaleOf F64.arith T 0 = .fin true 0 F64.eMin) &&
        decide ((d.units.map sortKey)[0]? = some (.fin false 0 F64.eMin))) d T = true :=
  genWitness_spec F64.arith itNegZero _ (by decide +kernel)

end Qty.Bridge
