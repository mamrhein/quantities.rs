import QtyModel.Props.OracleSoundBase
import QtyModel.Props.C02Inf
import QtyModel.Lemmas.F64Laws
import QtyModel.Lemmas.Basic
import QtyModel.Props.C02
/- `OracleSound`, C02: cross-unit comparison. -/
namespace Qty.OracleSound

variable {A : Type} (R : Arith A)

/- The arguments of the oracles of the op `cmp` (quantity type with reference unit), computed as
`Main.lean` computes them: `si`, `sj` = `R.val` of the two unit scales, `va`, `vb` = `R.val` of the
two amounts. -/
namespace Drv

/-- `let mag (s v : Option Rat) : Option Rat := do let s ← s; let v ← v; pure (s * v)` -/
def mag (s v : Option Rat) : Option Rat := do
  let s ← s
  let v ← v
  pure (s * v)

/-- `let margin (sFrom sTo : Option Rat) (v : Option Rat) : Option Rat := …` -/
def margin (M : ErrModel) (sFrom sTo : Option Rat) (v : Option Rat) : Option Rat := do
  let s1 ← sFrom
  let s2 ← sTo
  let v ← v
  if Oracle.convSafe M s1 s2 v then pure (Oracle.convBound M s1 s2 v) else none

/-- `let mg : Option Rat := do let m1 ← margin sj si (R.val b); let m2 ← margin si sj (R.val a);
pure (if m1 < m2 then m2 else m1)` -/
def mg (M : ErrModel) (si sj va vb : Option Rat) : Option Rat := do
  let m1 ← margin M sj si vb
  let m2 ← margin M si sj va
  pure (if m1 < m2 then m2 else m1)

/-- the whole verdict of the op `cmp` for a type with reference unit:
`((Oracle.c02one (i == j) ownAB o1 mx my mg).and (Oracle.c02one (i == j) ownBA o2 my mx mg)).and
(if nanFree then Oracle.c02symm o1 o2 else .ok)` -/
def cmpVerdict (M : ErrModel) (sameUnit : Bool) (ownAB ownBA o1 o2 : Oracle.CmpObs)
    (si sj va vb : Option Rat) (nanFree : Bool) : Verdict :=
  ((Oracle.c02one sameUnit ownAB o1 (mag si va) (mag sj vb) (mg M si sj va vb)).and
    (Oracle.c02one sameUnit ownBA o2 (mag sj vb) (mag si va) (mg M si sj va vb))).and
    (if nanFree then Oracle.c02symm o1 o2 else .ok)

theorem margin_eq_some {M : ErrModel} {sFrom sTo v : Option Rat} {m : Rat}
    (h : margin M sFrom sTo v = some m) :
    ∃ s1 s2 x, sFrom = some s1 ∧ sTo = some s2 ∧ v = some x ∧ Oracle.convSafe M s1 s2 x = true ∧
      m = Oracle.convBound M s1 s2 x := by
  obtain ⟨s1, rfl, h⟩ := Option.bind_eq_some_iff.mp h
  obtain ⟨s2, rfl, h⟩ := Option.bind_eq_some_iff.mp h
  obtain ⟨x, rfl, h⟩ := Option.bind_eq_some_iff.mp h
  obtain ⟨hs, hm⟩ := Option.ite_none_right_eq_some.mp h
  exact ⟨s1, s2, x, rfl, rfl, rfl, hs, (Option.some.inj hm).symm⟩

/-- `mg` is the larger of the two conversion bounds, and exists only when both conversions are in range -/
theorem mg_eq_some {M : ErrModel} {si sj va vb : Option Rat} {m : Rat} (h : mg M si sj va vb = some m) :
    ∃ sa sb x y, si = some sa ∧ sj = some sb ∧ va = some x ∧ vb = some y ∧
      Oracle.convSafe M sb sa y = true ∧ Oracle.convSafe M sa sb x = true ∧
      m = max (Oracle.convBound M sb sa y) (Oracle.convBound M sa sb x) := by
  simp only [mg, Option.bind_eq_bind, Option.bind_eq_some_iff, Option.pure_def,
    Option.some.injEq] at h
  obtain ⟨m1, h1, m2, h2, rfl⟩ := h
  obtain ⟨sb, sa, y, rfl, rfl, rfl, hs1, rfl⟩ := margin_eq_some h1
  obtain ⟨_, _, x, ⟨⟩, ⟨⟩, rfl, hs2, rfl⟩ := margin_eq_some h2
  exact ⟨sa, sb, x, y, rfl, rfl, rfl, rfl, hs1, hs2, (max_def_lt _ _).symm⟩

/-- both calls of `Oracle.c02one` get the same margin -/
theorem mg_comm (M : ErrModel) (si sj va vb : Option Rat) :
    mg M si sj va vb = mg M sj si vb va := by
  unfold mg
  cases margin M sj si vb <;> cases margin M si sj va <;> try rfl
  exact congrArg some ((max_def_lt _ _).symm.trans ((max_comm _ _).trans (max_def_lt _ _)))

end Drv

/-- what the model prints for one operand order is `CmpObs.ofPcmp e p`; it is consistent -/
theorem ofPcmp_consistent (e : Bool) (p : Option Ordering) (h : e = (p == some .eq)) :
    (Oracle.CmpObs.ofPcmp e p).consistent = true := by
  subst h
  cases p with
  | none => decide
  | some o => cases o <;> decide

/-- **C02, one operand order** (`Main.lean`, op `cmp`, branch `T.kind == .withRef`, first call
`Oracle.c02one (i == j) ownAB o1 mx my mg`): `e`, `p` are what the model's `hrEq` / `hrPcmp`
returned for `(a, b)`, printed by `cmpGroup` as `CmpObs.ofPcmp e p`; `mx`, `my`, `mg` are computed
by `Drv.mag` / `Drv.mg` as the driver computes them (`mg` from `Oracle.convSafe` / `Oracle.convBound`).
The unit scales, when finite, are positive (the hypothesis of `C02.cmp_physical`; the driver does
not test it: with a negative scale the physical order IS reversed and the oracle rightly fails). -/
theorem c02one_accepts_model {M : ErrModel} (L : Laws R M) (T : QT A Nat) (a b : Q A Nat)
    (hposa : ∀ s, R.val (T.scale a.unit) = some s → 0 < s)
    (hposb : ∀ s, R.val (T.scale b.unit) = some s → 0 < s)
    (e : Bool) (p : Option Ordering)
    (he : hrEq R T a b = .ok e) (hp : hrPcmp R T a b = .ok p) (w : String) :
    Oracle.c02one (a.unit == b.unit)
      (Oracle.CmpObs.ofPcmp (R.beq a.amount b.amount) (R.pcmp a.amount b.amount))
      (Oracle.CmpObs.ofPcmp e p)
      (Drv.mag (R.val (T.scale a.unit)) (R.val a.amount))
      (Drv.mag (R.val (T.scale b.unit)) (R.val b.amount))
      (Drv.mg M (R.val (T.scale a.unit)) (R.val (T.scale b.unit)) (R.val a.amount) (R.val b.amount))
      ≠ .fail w := by
  revert w
  refine NoFail.and
    (.check _ (ofPcmp_consistent e p (C02.eq_iff_pcmp_eq R T L a b e p he hp))) ?_
  by_cases hu : a.unit = b.unit
  · rw [if_pos (beq_iff_eq.mpr hu)]
    rw [C02.eq_same_unit R T a b hu] at he
    rw [C02.pcmp_same_unit R T a b hu] at hp
    cases he
    cases hp
    exact .check _ (beq_self_eq_true _)
  · rw [if_neg (mt beq_iff_eq.mp hu)]
    split
    next mx my m hmx hmy hm =>
      -- a margin exists only for finite scales and amounts; the magnitudes are then their products
      obtain ⟨sa, sb, x, y, hsa, hsb, hx, hy, hs1, hs2, rfl⟩ := Drv.mg_eq_some hm
      rw [hsa, hx] at hmx
      rw [hsb, hy] at hmy
      cases hmx
      cases hmy
      refine NoFail.ite (fun hgap => ?_) fun _ => .ok
      rw [ratAbs_eq_abs, mul_comm sa x, mul_comm sb y] at hgap
      obtain ⟨hp', he'⟩ := C02.cmp_physical R T L a b sa sb x y hu hsa hsb (hposa sa hsa)
        (hposb sb hsb) hx hy hs1 hs2 hgap
      cases hp.symm.trans hp'
      cases he.symm.trans he'
      rw [mul_comm sa x, mul_comm sb y]
      exact .check _ (Bool.and_eq_true_iff.mpr ⟨beq_self_eq_true _, rfl⟩)
    · exact .skip _

/-- **C02, the other operand order** (`Main.lean`, op `cmp`, second call
`Oracle.c02one (i == j) ownBA o2 my mx mg` — same `(i == j)` and same `mg` as the first call):
`e`, `p` are what the model's `hrEq` / `hrPcmp` returned for `(b, a)`. -/
theorem c02one_accepts_model_swapped {M : ErrModel} (L : Laws R M) (T : QT A Nat) (a b : Q A Nat)
    (hposa : ∀ s, R.val (T.scale a.unit) = some s → 0 < s)
    (hposb : ∀ s, R.val (T.scale b.unit) = some s → 0 < s)
    (e : Bool) (p : Option Ordering)
    (he : hrEq R T b a = .ok e) (hp : hrPcmp R T b a = .ok p) (w : String) :
    Oracle.c02one (a.unit == b.unit)
      (Oracle.CmpObs.ofPcmp (R.beq b.amount a.amount) (R.pcmp b.amount a.amount))
      (Oracle.CmpObs.ofPcmp e p)
      (Drv.mag (R.val (T.scale b.unit)) (R.val b.amount))
      (Drv.mag (R.val (T.scale a.unit)) (R.val a.amount))
      (Drv.mg M (R.val (T.scale a.unit)) (R.val (T.scale b.unit)) (R.val a.amount) (R.val b.amount))
      ≠ .fail w := by
  rw [Drv.mg_comm, BEq.comm (a := a.unit)]
  exact c02one_accepts_model R L T b a hposb hposa e p he hp w

namespace NegScale
/-- decimal back-end, unit `0` of scale `-1`, unit `1` of scale `1` (reference unit) -/
def T : QT Dec Nat := { units := [0, 1], scale := fun u => if u = 0 then ⟨-1, 0⟩ else ⟨1, 0⟩,
                        hasPrefix := fun _ => false, ref := 1 }
def a : Q Dec Nat := ⟨⟨1, 0⟩, 0⟩
def b : Q Dec Nat := ⟨⟨5, 0⟩, 1⟩
end NegScale

/-- Why `c02one_accepts_model` asks for positive scales (which the driver does not test): with a
unit of scale `-1`, `1·u₀` has magnitude `-1 < 5`, but the comparison is carried out in `u₀`
(`1` against `5 / -1 = -5`) and answers `>`.  The oracle FAILS on the model's output — rightly:
the property "comparison follows the physical magnitudes" (`C02.cmp_physical`) does not hold for
such a table, so this is no false alarm on code where the property holds. -/
theorem c02one_rejects_model_negative_scale :
    hrEq Dec.arith NegScale.T NegScale.a NegScale.b = .ok false ∧
    hrPcmp Dec.arith NegScale.T NegScale.a NegScale.b = .ok (some .gt) ∧
    ¬ NoFail (Oracle.c02one (NegScale.a.unit == NegScale.b.unit)
      (Oracle.CmpObs.ofPcmp (Dec.arith.beq NegScale.a.amount NegScale.b.amount)
        (Dec.arith.pcmp NegScale.a.amount NegScale.b.amount))
      (Oracle.CmpObs.ofPcmp false (some .gt))
      (Drv.mag (Dec.arith.val (NegScale.T.scale NegScale.a.unit)) (Dec.arith.val NegScale.a.amount))
      (Drv.mag (Dec.arith.val (NegScale.T.scale NegScale.b.unit)) (Dec.arith.val NegScale.b.amount))
      (Drv.mg ErrModel.dec (Dec.arith.val (NegScale.T.scale NegScale.a.unit))
        (Dec.arith.val (NegScale.T.scale NegScale.b.unit)) (Dec.arith.val NegScale.a.amount)
        (Dec.arith.val NegScale.b.amount))) := by
  refine ⟨by decide +kernel, by decide +kernel, ?_⟩
  apply not_noFail_of_isFail
  decide +kernel

/-- `Oracle.c02symm` accepts two observations related as `C02.cmp_symm` states -/
theorem c02symm_noFail_of_symm (T : QT A Nat) (a b : Q A Nat)
    (hsymm : hrPcmp R T b a = (hrPcmp R T a b).map Oracle.flipOrd ∧ hrEq R T b a = hrEq R T a b)
    (e1 e2 : Bool) (p1 p2 : Option Ordering)
    (he1 : hrEq R T a b = .ok e1) (hp1 : hrPcmp R T a b = .ok p1)
    (he2 : hrEq R T b a = .ok e2) (hp2 : hrPcmp R T b a = .ok p2) :
    NoFail (Oracle.c02symm (Oracle.CmpObs.ofPcmp e1 p1) (Oracle.CmpObs.ofPcmp e2 p2)) := by
  obtain ⟨hsp, hse⟩ := hsymm
  rw [hp1, hp2] at hsp
  rw [he1, he2] at hse
  cases hse
  have : p2 = Oracle.flipOrd p1 := Except.ok.inj hsp
  subst this
  unfold Oracle.c02symm
  apply NoFail.check
  cases p1 with
  | none => cases e1 <;> decide
  | some o => cases o <;> cases e1 <;> decide

/-- **C02, operand-order independence** (`Main.lean`, op `cmp`, `Oracle.c02symm o1 o2`, evaluated
when `nanFree`), strongest form that holds for EVERY arithmetic with `Laws`: the two units are
equal, or their (finite) scales differ, or — two different units of the same scale — the scale is
not zero and both amounts are finite.  The driver only knows `nanFree` (`partial_cmp` of each amount
with itself answers); for an abstract arithmetic that is weaker in the third case, and the
unrestricted statement is FALSE: `c02symm_rejects_model_ill_formed_datum`.  For binary64 the
unrestricted statement holds for every datum that is a binary64 value:
`c02symm_accepts_model_f64`. -/
theorem c02symm_accepts_model_partial {M : ErrModel} (L : Laws R M) (T : QT A Nat) (a b : Q A Nat)
    (hcase : a.unit = b.unit ∨
      ∃ sa sb, R.val (T.scale a.unit) = some sa ∧ R.val (T.scale b.unit) = some sb ∧
        (sa ≠ sb ∨ (sa ≠ 0 ∧ ∃ x y, R.val a.amount = some x ∧ R.val b.amount = some y)))
    (e1 e2 : Bool) (p1 p2 : Option Ordering)
    (he1 : hrEq R T a b = .ok e1) (hp1 : hrPcmp R T a b = .ok p1)
    (he2 : hrEq R T b a = .ok e2) (hp2 : hrPcmp R T b a = .ok p2) (w : String) :
    Oracle.c02symm (Oracle.CmpObs.ofPcmp e1 p1) (Oracle.CmpObs.ofPcmp e2 p2) ≠ .fail w := by
  refine c02symm_noFail_of_symm R T a b ?_ e1 e2 p1 p2 he1 hp1 he2 hp2 w
  rcases hcase with hu | ⟨sa, sb, hsa, hsb, hne | ⟨hsa0, x, y, hx, hy⟩⟩
  · exact C02.cmp_symm_same_unit R T L a b hu
  · exact C02.cmp_symm_diff_scale R T L a b sa sb hsa hsb hne
  · exact C02.cmp_symm R T L a b sa sb x y hsa hsb hsa0 hx hy

/-- The unrestricted statement (only `nanFree`, as the driver tests) is false for an abstract
arithmetic: `F64.arith` satisfies `Laws`, but its carrier also contains data that are no binary64
values (`fin false (2^53+1) 0`); such a datum has no exact value (`val = none`), compares with
itself (`nanFree`), and `1.0 * x` rounds it while `partial_cmp` does not.  With two different units
of the same scale the model answers `>` in one order and `==` in the other, and `Oracle.c02symm`
FAILS on the model's own output.  Not reachable from the driver: its binary64 parser
(`F64.ofBits`) only produces binary64 values (`ofBits_wf`); the decimal parser (`decCodec`) likewise
rejects what is no `Decimal` (`Dec.wf`). -/
theorem c02symm_rejects_model_ill_formed_datum :
    ∃ (T : QT F64 Nat) (a b : Q F64 Nat) (sa sb : Rat) (e1 e2 : Bool) (p1 p2 : Option Ordering),
      F64.arith.val (T.scale a.unit) = some sa ∧ F64.arith.val (T.scale b.unit) = some sb ∧
      0 < sa ∧ 0 < sb ∧
      ((F64.arith.pcmp a.amount a.amount).isSome && (F64.arith.pcmp b.amount b.amount).isSome) = true ∧
      hrEq F64.arith T a b = .ok e1 ∧ hrPcmp F64.arith T a b = .ok p1 ∧
      hrEq F64.arith T b a = .ok e2 ∧ hrPcmp F64.arith T b a = .ok p2 ∧
      ¬ NoFail (Oracle.c02symm (Oracle.CmpObs.ofPcmp e1 p1) (Oracle.CmpObs.ofPcmp e2 p2)) := by
  refine ⟨C02.exT, ⟨.fin false (2 ^ 53 + 1) 0, 0⟩, ⟨.fin false (2 ^ 52) 1, 2⟩, 1, 1,
    false, true, some .gt, some .eq,
    by decide +kernel, by decide +kernel, one_pos, one_pos, by decide +kernel,
    by decide +kernel, by decide +kernel, by decide +kernel, by decide +kernel, ?_⟩
  apply not_noFail_of_isFail
  decide +kernel

/-- every bit pattern the driver's binary64 parser accepts denotes a binary64 value -/
theorem ofBits_wf (b : Nat) : F64.wf (F64.ofBits b) = true := by
  cases h : F64.ofBits b with
  | fin s m e =>
    rw [F64.wf_fin_iff]
    have := F64.ofBits_fin h
    have := F64.two52_eq
    have := F64.two53_eq
    simp only [F64.eMin, F64.eMax] at *
    omega
  | inf s => rfl
  | nan => rfl

/-- **C02, operand-order independence, binary64 back-end**: the driver's situation (`nanFree`;
amounts that are binary64 values, as everything `F64.ofBits` produces is; the unit scales finite, as
in every generated table) — equal units, different scales, or different units of equal (even zero) scale,
finite or infinite amounts. -/
theorem c02symm_accepts_model_f64 (T : QT F64 Nat) (a b : Q F64 Nat) (sa sb : Rat)
    (hsa : F64.arith.val (T.scale a.unit) = some sa) (hsb : F64.arith.val (T.scale b.unit) = some sb)
    (hnan : ((F64.arith.pcmp a.amount a.amount).isSome && (F64.arith.pcmp b.amount b.amount).isSome) = true)
    (hwa : F64.wf a.amount = true) (hwb : F64.wf b.amount = true)
    (e1 e2 : Bool) (p1 p2 : Option Ordering)
    (he1 : hrEq F64.arith T a b = .ok e1) (hp1 : hrPcmp F64.arith T a b = .ok p1)
    (he2 : hrEq F64.arith T b a = .ok e2) (hp2 : hrPcmp F64.arith T b a = .ok p2) (w : String) :
    (if ((F64.arith.pcmp a.amount a.amount).isSome && (F64.arith.pcmp b.amount b.amount).isSome)
      then Oracle.c02symm (Oracle.CmpObs.ofPcmp e1 p1) (Oracle.CmpObs.ofPcmp e2 p2) else .ok)
      ≠ .fail w := by
  rw [hnan, if_pos rfl]
  rw [Bool.and_eq_true] at hnan
  exact c02symm_noFail_of_symm F64.arith T a b
    (C02.f64_cmp_symm_of_wf T a b sa sb hsa hsb (F64.ne_nan_of_pcmp_self _ hnan.1)
      (F64.ne_nan_of_pcmp_self _ hnan.2) hwa hwb) e1 e2 p1 p2 he1 hp1 he2 hp2 w

/-- **C02, the whole verdict of the op `cmp`** (type with reference unit) on the model's own
answers for both operand orders, `Drv.cmpVerdict` being the driver's expression
`((c02one (i == j) ownAB o1 mx my mg).and (c02one (i == j) ownBA o2 my mx mg)).and
(if nanFree then c02symm o1 o2 else .ok)`; `hcase` is only needed when `nanFree` holds. -/
theorem cmp_accepts_model {M : ErrModel} (L : Laws R M) (T : QT A Nat) (a b : Q A Nat)
    (hposa : ∀ s, R.val (T.scale a.unit) = some s → 0 < s)
    (hposb : ∀ s, R.val (T.scale b.unit) = some s → 0 < s)
    (hcase : ((R.pcmp a.amount a.amount).isSome && (R.pcmp b.amount b.amount).isSome) = true →
      a.unit = b.unit ∨
      ∃ sa sb, R.val (T.scale a.unit) = some sa ∧ R.val (T.scale b.unit) = some sb ∧
        (sa ≠ sb ∨ (sa ≠ 0 ∧ ∃ x y, R.val a.amount = some x ∧ R.val b.amount = some y)))
    (e1 e2 : Bool) (p1 p2 : Option Ordering)
    (he1 : hrEq R T a b = .ok e1) (hp1 : hrPcmp R T a b = .ok p1)
    (he2 : hrEq R T b a = .ok e2) (hp2 : hrPcmp R T b a = .ok p2) (w : String) :
    Drv.cmpVerdict M (a.unit == b.unit)
      (Oracle.CmpObs.ofPcmp (R.beq a.amount b.amount) (R.pcmp a.amount b.amount))
      (Oracle.CmpObs.ofPcmp (R.beq b.amount a.amount) (R.pcmp b.amount a.amount))
      (Oracle.CmpObs.ofPcmp e1 p1) (Oracle.CmpObs.ofPcmp e2 p2)
      (R.val (T.scale a.unit)) (R.val (T.scale b.unit)) (R.val a.amount) (R.val b.amount)
      ((R.pcmp a.amount a.amount).isSome && (R.pcmp b.amount b.amount).isSome) ≠ .fail w := by
  revert w
  refine NoFail.and (NoFail.and
    (c02one_accepts_model R L T a b hposa hposb e1 p1 he1 hp1)
    (c02one_accepts_model_swapped R L T a b hposa hposb e2 p2 he2 hp2))
    (NoFail.ite (fun hn =>
      c02symm_accepts_model_partial R L T a b (hcase hn) e1 e2 p1 p2 he1 hp1 he2 hp2) fun _ => .ok)

end Qty.OracleSound
