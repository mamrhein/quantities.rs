import QtyModel.Ops
import QtyModel.Generated.Algos
/- Tie between code and model: the definitions re-emitted from the Rust source (`Generated/Algos.lean`) ARE
   the model's, for `HasRefUnit::{add, sub}`. -/
namespace Qty.AlgoTie
open Qty.Gen.Algos

variable {A U : Type} [DecidableEq U]
variable (R : Arith A) (T : QT A U)

theorem add_eq (a b : Q A U) : HasRefUnit.add R T a b = hrAdd R T a b := rfl
theorem sub_eq (a b : Q A U) : HasRefUnit.sub R T a b = hrSub R T a b := rfl

end Qty.AlgoTie
