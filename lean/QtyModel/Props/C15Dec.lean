import QtyModel.Lemmas.Digits
import QtyModel.Lemmas.DecLaws
import QtyModel.Lemmas.Basic
import QtyModel.Lemmas.RoundHalfEven
/-
  C15 (decimal back-end) — the amount text of `Display for Decimal`:
  without a precision it denotes exactly the stored value with exactly its digit count;
  with a precision `p ≤ 18` it is the correctly rounded value with exactly `p`
  fractional digits.  (For `p > 18` fpdec clamps: `C15.dec_precision_clamped`.)
-/
namespace Qty.C15
open Qty.Fmt Qty.Digits

/-- the digits of a natural number denote it -/
theorem natDigits_value (n : Nat) :
    (natDigits n).all Case.isDigit = true ∧ (natDigits n) ≠ [] ∧
    (natDigits n).foldl (fun acc c => acc * 10 + (c - 48)) 0 = n :=
  ⟨natDigits_all n, natDigits_ne_nil n, natDigits_num n⟩

/-- without a precision the text denotes exactly `|d|`, with exactly `d.nfd` fractional digits -/
theorem dec_no_precision_exact (d : Dec) :
    parseDecText (decAbsText none d) = some (abs d.toRat, d.nfd) := by
  simpa [signText, Dec.abs_toRat] using (decAbsText_none_plain d).parseDec false

/-- the digits written under the precision `p` are within one half of `|d| · 10^p`: exact where
digits are added, rounded half-even (the signed coefficient is rounded, then the magnitude taken)
where they are dropped -/
theorem decDigits_bound {p : Nat} (d : Dec) :
    |((decDigits p d : ℕ) : ℚ) - |d.toRat| * 10 ^ p| ≤ 1 / 2 := by
  unfold decDigits
  rw [Dec.toRat_eq, abs_div, abs_of_pos (ten_pow_pos d.nfd)]
  split
  · next h =>
    obtain ⟨k, hk⟩ : ∃ k, d.nfd = p + k := ⟨d.nfd - p, by omega⟩
    have hb := rhe_bound d.coeff (Dec.tenPow k) (ne_of_gt (Dec.tenPow_pos k))
    rw [Dec.tenPow_cast] at hb
    have hb2 := le_trans (abs_abs_sub_abs_le_abs_sub _ _) hb
    rw [abs_div, abs_of_pos (ten_pow_pos k)] at hb2
    have e : |(d.coeff : ℚ)| / (10 ^ p * 10 ^ k) * 10 ^ p = |(d.coeff : ℚ)| / 10 ^ k := by
      rw [div_mul_eq_mul_div, mul_comm ((10 : ℚ) ^ p), mul_div_mul_right _ _ (ten_pow_pos p).ne']
    rwa [hk, Nat.add_sub_cancel_left, Nat.cast_natAbs, Int.cast_abs, pow_add, e]
  · next h =>
    -- digits are appended: exact
    obtain ⟨k, rfl⟩ : ∃ k, p = d.nfd + k := ⟨p - d.nfd, by omega⟩
    have hc : ((d.coeff.natAbs * 10 ^ k : ℕ) : ℚ) = |(d.coeff : ℚ)| * 10 ^ k := by
      push_cast; rw [Nat.cast_natAbs, Int.cast_abs]
    rw [Nat.add_sub_cancel_left, hc, pow_add, ← mul_assoc,
      div_mul_cancel₀ _ (ten_pow_pos d.nfd).ne', sub_self, abs_zero]
    norm_num

/-- with a precision `p ≤ 18`: exactly `p` fractional digits, correctly rounded (half-even) -/
theorem dec_precision_correct (d : Dec) (p : Nat) (hp : p ≤ 18) :
    ∃ v, parseDecText (decAbsText (some p) d) = some (v, p) ∧ abs (v - abs d.toRat) ≤ 1 / (2 * (10 : Rat) ^ p) := by
  have h := (decAbsText_plain (some p) d).parseDec_close false (decDigits_bound d)
  rwa [effPrec_of_le hp] at h

end Qty.C15
