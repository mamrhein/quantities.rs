import QtyModel.Ops
import QtyModel.Generated.Algos
/- Tie between code and model: the definitions re-emitted from the Rust source (`Generated/Algos.lean`) ARE
   the model's, for `Quantity::{eq, partial_cmp}`, used by types without reference unit. -/
namespace Qty.AlgoTie
open Qty.Gen.Algos

variable {A U : Type} [DecidableEq U]
variable (R : Arith A) (T : QT A U)

theorem nr_eq_eq (a b : Q A U) : Quantity.eq R T a b = nrEq R a b := rfl
theorem nr_partial_cmp_eq (a b : Q A U) : Quantity.partial_cmp R T a b = nrPcmp R a b := rfl

end Qty.AlgoTie
