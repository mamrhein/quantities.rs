import QtyModel.Lemmas.Approx
import QtyModel.Lemmas.Res
import QtyModel.Rate
/-
  C13 — Rates relate two quantities consistently.

  `approxRateApply` is the propagated-error description of `((q / 1·u) / d) * m` that the
  run-time oracle evaluates on implementation outputs.
-/
namespace Qty.C13
open Qty.Rate

variable {A : Type} (R : Arith A)

/-- a rate reports exactly its four components -/
theorem accessors (ta pm : A) (tu pu : Nat) :
    (⟨ta, tu, pm, pu⟩ : Rate A).termAmount = ta ∧ (⟨ta, tu, pm, pu⟩ : Rate A).termUnit = tu ∧
    (⟨ta, tu, pm, pu⟩ : Rate A).perMultiple = pm ∧ (⟨ta, tu, pm, pu⟩ : Rate A).perUnit = pu :=
  ⟨rfl, rfl, rfl, rfl⟩

theorem from_qty_vals (term per : Q A Nat) :
    fromQtyVals term per = ⟨term.amount, term.unit, per.amount, per.unit⟩ := rfl

/-- the reciprocal swaps term and per; applied twice it gives the original -/
theorem reciprocal_swaps (r : Rate A) :
    r.reciprocal = ⟨r.perMultiple, r.perUnit, r.termAmount, r.termUnit⟩ := rfl

theorem reciprocal_involutive (r : Rate A) : r.reciprocal.reciprocal = r := rfl

/-- dividing by a rate is multiplying by its reciprocal: the two are the same computation -/
theorem div_is_mul_reciprocal (TT : RTable A) (q : Q A Nat) (r : Rate A) :
    divQ R TT q r = mulQ R TT r.reciprocal q := rfl

/-- per-quantity without reference unit: a value in a different unit gives the documented panic -/
theorem mulQ_unit_mismatch (TP : RTable A) (hk : TP.kind = .noRef) (r : Rate A) (q : Q A Nat)
    (h : q.unit ≠ r.perUnit) : mulQ R TP r q = .error .unitMismatch := by
  simp [mulQ, qdiv, hk, nrDiv, h]

/-- `Div<Self>` by the value `1·u` divides by `AmountT::ONE`, a rounded operation like any other -/
theorem div_one_sound {M : ErrModel} (L : Laws R M) {a : A} {qv : Rat} {x : Approx}
    (hq : R.val a = some qv)
    (hA : Approx.div M (Approx.exact qv) (Approx.exact 1) = some x) (hok : x.ok = true) :
    ∃ c, R.div a R.one = .ok c ∧ Realises R c x :=
  (exact_sound R hq).div L (exact_sound R L.one_val) hA hok

theorem approxQDiv_withRef {M : ErrModel} {T : RTable A} (hk : T.kind = .withRef) (a : Approx)
    (qu u : Nat) :
    approxQDiv R M T a qu u = .ok (if qu = u then Approx.div M a (Approx.exact 1) else
      (R.val (T.scaleOf R u)).bind fun su => (R.val (T.scaleOf R qu)).bind fun sq =>
        (Approx.div M (Approx.exact su) (Approx.exact sq)).bind fun ρ =>
          Approx.div M a (Approx.mul M ρ (Approx.exact 1))) := by
  unfold approxQDiv
  rw [hk]
  by_cases h : qu = u
  · simp [h]
  · simp only [beq_iff_eq, h, if_false]
    cases R.val (T.scaleOf R u) <;> cases R.val (T.scaleOf R qu) <;> rfl

/-- the error-propagated description of `((q / 1·u) / d) * m` (`approxRateApply`, Rate.lean) written on the
exact unit scales `sc` of a table with reference unit, for the rounding model `M`: `qv`, `dv`, `mv`
are the exact values of the three amounts, `qu` the unit of `q`; `.ok` of the result records that
every intermediate magnitude stayed in range -/
def rateApproxM (M : ErrModel) (sc : Nat → Rat) (qv : Rat) (qu u : Nat) (dv mv : Rat) :
    Option Approx := do
  let x ← (if qu == u then Approx.div M (Approx.exact qv) (Approx.exact 1)
    else do
      let ratio ← Approx.div M (Approx.exact (sc u)) (Approx.exact (sc qu))
      Approx.div M (Approx.exact qv) (Approx.mul M ratio (Approx.exact 1)))
  let amnt ← Approx.div M x (Approx.exact dv)
  pure (Approx.mul M amnt (Approx.exact mv))

theorem approxRateApply_withRef {M : ErrModel} {T : RTable A} {sc : Nat → Rat}
    (hk : T.kind = .withRef) (qv : Rat) {qu u : Nat} (dv mv : Rat)
    (hqu : R.val (T.scaleOf R qu) = some (sc qu)) (hu : R.val (T.scaleOf R u) = some (sc u)) :
    approxRateApply R M T (Approx.exact qv) qu u (Approx.exact dv) (Approx.exact mv)
      = .ok (rateApproxM M sc qv qu u dv mv) := by
  unfold approxRateApply rateApproxM
  rw [approxQDiv_withRef R hk, hu, hqu]
  by_cases h : qu = u <;> simp [h]

/-- `q / (1·u)` (`Div<Self>`) is computed within the bound `approxQDiv` propagates -/
theorem qdiv_sound {M : ErrModel} (L : Laws R M) (T : RTable A) (q : Q A Nat) (u : Nat)
    (qv : Rat) (x : Approx) (hq : R.val q.amount = some qv)
    (hA : approxQDiv R M T (Approx.exact qv) q.unit u = .ok (some x)) (hok : x.ok = true) :
    ∃ c, Rate.qdiv R T q ⟨R.one, u⟩ = .ok c ∧ Realises R c x := by
  unfold Rate.qdiv
  cases hk : T.kind with
  | withRef =>
    rw [approxQDiv_withRef R hk, Except.ok.injEq] at hA
    simp only [hrDiv_eq]
    split_ifs at hA with hu
    · subst hu
      rw [equivAmount_self]
      exact div_one_sound R L hq hA hok
    · obtain ⟨su, hsu, hA⟩ := Option.bind_eq_some_iff.mp hA
      obtain ⟨sq, hsq, hA⟩ := Option.bind_eq_some_iff.mp hA
      obtain ⟨ratio, hρ, hA⟩ := Option.bind_eq_some_iff.mp hA
      -- the two steps of `equiv_amount`, then the division, each realising its description
      have hmok := div_ok_right hA hok
      obtain ⟨ρ, hdiv, hρr⟩ := (exact_sound R hsu).div L (exact_sound R hsq) hρ
        (mul_ok_left _ _ hmok)
      obtain ⟨e, hmul, her⟩ := hρr.mul L (exact_sound R L.one_val) hmok
      obtain ⟨c, hdiv2, hcr⟩ := (exact_sound R hq).div L her hA hok
      refine ⟨c, ?_, hcr⟩
      rw [equivAmount_of_ne _ _ (Ne.symm hu)]
      simp only [RTable.qt]
      rw [hdiv, Res.ok_bind, hmul]
      exact hdiv2
  | noRef =>
    unfold approxQDiv at hA
    simp only [hk] at hA ⊢
    by_cases hu : q.unit = u
    · simp only [hu, beq_self_eq_true, if_true, Except.ok.injEq] at hA
      rw [show nrDiv R q ⟨R.one, u⟩ = R.div q.amount R.one from if_pos hu]
      exact div_one_sound R L hq hA hok
    · have hu' : (q.unit == u) = false := by simpa using hu
      simp [hu'] at hA
  | single =>
    unfold approxQDiv at hA
    simp only [hk, Except.ok.injEq] at hA ⊢
    exact div_one_sound R L hq hA hok

theorem rate_apply_inv {M : ErrModel} {T : RTable A} {a : Approx} {qu u : Nat} {d m w : Approx}
    (hw : approxRateApply R M T a qu u d m = .ok (some w)) :
    ∃ x amnt, approxQDiv R M T a qu u = .ok (some x) ∧ Approx.div M x d = some amnt ∧
      w = Approx.mul M amnt m := by
  unfold approxRateApply at hw
  split at hw
  · cases hw
  · next ox hA =>
    obtain ⟨x, rfl, h⟩ := Option.bind_eq_some_iff.mp (Except.ok.inj hw)
    obtain ⟨amnt, hD, h⟩ := Option.bind_eq_some_iff.mp h
    exact ⟨x, amnt, hA, hD, (Option.some.inj h).symm⟩

/-- the common core of `rate * q`, `q * rate` and `q / rate`:
`((q / 1·u) / d) * m` is computed within the propagated bound, for every kind of quantity type.
`qv`, `dv`, `mv` are the exact values of the amounts. -/
theorem rate_apply_sound {M : ErrModel} (L : Laws R M) (T : RTable A) (q : Q A Nat) (u : Nat)
    (d m : A) (qv dv mv : Rat) (w : Approx)
    (hq : R.val q.amount = some qv) (hd : R.val d = some dv) (hm : R.val m = some mv)
    (hw : approxRateApply R M T (Approx.exact qv) q.unit u (Approx.exact dv) (Approx.exact mv) = .ok (some w))
    (hok : w.ok = true) :
    ∃ x amnt z, Rate.qdiv R T q ⟨R.one, u⟩ = .ok x ∧ R.div x d = .ok amnt ∧ R.mul amnt m = .ok z ∧
      Realises R z w := by
  obtain ⟨X, AM, hA, hD, rfl⟩ := rate_apply_inv R hw
  have hAMok : AM.ok = true := mul_ok_left _ _ hok
  obtain ⟨x, hx, hxr⟩ := qdiv_sound R L T q u qv X hq hA (div_ok_left hD hAMok)
  obtain ⟨amnt, hdiv, har⟩ := hxr.div L (exact_sound R hd) hD hAMok
  obtain ⟨z, hmul, hzr⟩ := har.mul L (exact_sound R hm) hok
  exact ⟨x, amnt, z, hx, hdiv, hmul, hzr⟩

/-- `rate * q` (and `q * rate`): term amount × (value / per value), in the term unit -/
theorem mulQ_sound {M : ErrModel} (L : Laws R M) (TP : RTable A) (r : Rate A) (q : Q A Nat)
    (qv pmv tav : Rat) (w : Approx)
    (hq : R.val q.amount = some qv) (hpm : R.val r.perMultiple = some pmv) (hta : R.val r.termAmount = some tav)
    (hw : approxRateApply R M TP (Approx.exact qv) q.unit r.perUnit (Approx.exact pmv) (Approx.exact tav) = .ok (some w))
    (hok : w.ok = true) :
    ∃ res, mulQ R TP r q = .ok res ∧ res.unit = r.termUnit ∧ Realises R res.amount w := by
  obtain ⟨x, amnt, z, hx, hdiv, hmul, hzr⟩ :=
    rate_apply_sound R L TP q r.perUnit r.perMultiple r.termAmount qv pmv tav w hq hpm hta hw hok
  exact ⟨⟨z, r.termUnit⟩, by simp [mulQ, hx, hdiv, hmul], rfl, hzr⟩

/-- `q / rate`: per amount × (value / term value), in the per unit -/
theorem divQ_sound {M : ErrModel} (L : Laws R M) (TT : RTable A) (r : Rate A) (q : Q A Nat)
    (qv pmv tav : Rat) (w : Approx)
    (hq : R.val q.amount = some qv) (hpm : R.val r.perMultiple = some pmv) (hta : R.val r.termAmount = some tav)
    (hw : approxRateApply R M TT (Approx.exact qv) q.unit r.termUnit (Approx.exact tav) (Approx.exact pmv) = .ok (some w))
    (hok : w.ok = true) :
    ∃ res, divQ R TT q r = .ok res ∧ res.unit = r.perUnit ∧ Realises R res.amount w :=
  mulQ_sound R L TT r.reciprocal q qv tav pmv w hq hta hpm hw hok

set_option linter.unusedVariables false in -- `hsq0`, `hd0` are not needed (in `ℚ`, `x / 0 = 0`)
/-- the exact value described by `approxRateApply` for a quantity with reference unit is
`m · (q·s_q) / (d · s_u)`: term amount × (value / per value) -/
theorem rate_apply_value {M : ErrModel} (T : RTable A) (hk : T.kind = .withRef) (qu u : Nat) (qv dv mv sq su : Rat)
    (hsq : R.val (T.scaleOf R qu) = some sq) (hsu : R.val (T.scaleOf R u) = some su)
    (hsq0 : sq ≠ 0) (hsu0 : su ≠ 0) (hd0 : dv ≠ 0) (w : Approx)
    (hw : approxRateApply R M T (Approx.exact qv) qu u (Approx.exact dv) (Approx.exact mv) = .ok (some w)) :
    w.v = mv * (qv * sq) / (dv * su) := by
  obtain ⟨X, AM, hA, hD, rfl⟩ := rate_apply_inv R hw
  rw [approxQDiv_withRef R hk, Except.ok.injEq, hsu, hsq, Option.bind_some, Option.bind_some] at hA
  rw [mul_v, div_v hD]
  have hXv : X.v = qv * sq / su := by
    split_ifs at hA with h
    · subst h
      cases hsq.symm.trans hsu
      rw [div_v hA]
      simp only [Approx.exact]
      field_simp
    · obtain ⟨ρ, hρ, hA⟩ := Option.bind_eq_some_iff.mp hA
      rw [div_v hA, mul_v, div_v hρ]
      simp only [Approx.exact]
      rw [mul_one, div_div_eq_mul_div]
  rw [hXv]
  simp only [Approx.exact]
  rw [div_div, div_mul_eq_mul_div, mul_comm (qv * sq), mul_comm su]

/-- non-vacuity: 3 h at the rate `90` (term unit 5) per 2 h; per-quantity table with the units s
(scale 1) and h (scale 3600), decimal back-end -/
example :
    let TD : RTable Dec := { name := [], kind := .withRef, units := #[default, default],
                             scales := #[⟨10, 1⟩, ⟨3600, 0⟩], refIx := some 0, derived := none }
    mulQ Dec.arith TD ⟨⟨90, 0⟩, 5, ⟨2, 0⟩, 1⟩ ⟨⟨3, 0⟩, 1⟩ = .ok ⟨⟨1350, 1⟩, 5⟩ := by
  decide +kernel

end Qty.C13
