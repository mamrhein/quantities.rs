import QtyModel.Lemmas.Conv
import QtyModel.Lemmas.Approx
import QtyModel.Lemmas.Res
import QtyModel.Lemmas.Basic
/-
  C03 — Sum, difference and ratio of like quantities honour units.

  The numeric bounds are literally the expressions evaluated by the run-time oracles
  `Oracle.c03addsub`, `Oracle.c03div`.
-/
namespace Qty.C03

variable {A U : Type} [DecidableEq U] (R : Arith A) (T : QT A U)

/-- `a + b` / `a - b` are expressed in the left operand's unit -/
theorem add_unit (a b r : Q A U) (h : hrAdd R T a b = .ok r) : r.unit = a.unit :=
  hrAddSub_unit R T (hrAdd_eq R T a b ▸ h)

theorem sub_unit (a b r : Q A U) (h : hrSub R T a b = .ok r) : r.unit = a.unit :=
  hrAddSub_unit R T (hrSub_eq R T a b ▸ h)

/-- when both operands share a unit the results are exactly the amount type's own
`+`, `-`, `/` applied to the two amounts -/
theorem add_same_unit (a b : Q A U) (h : b.unit = a.unit) :
    hrAdd R T a b = (R.add a.amount b.amount).map (fun x => ⟨x, a.unit⟩) :=
  hrAdd_eq R T a b ▸ hrAddSub_same_unit R T R.add h

theorem sub_same_unit (a b : Q A U) (h : b.unit = a.unit) :
    hrSub R T a b = (R.sub a.amount b.amount).map (fun x => ⟨x, a.unit⟩) :=
  hrSub_eq R T a b ▸ hrAddSub_same_unit R T R.sub h

theorem div_same_unit (a b : Q A U) (h : b.unit = a.unit) :
    hrDiv R T a b = R.div a.amount b.amount := by
  rw [hrDiv_eq, ← h, equivAmount_self]
  rfl

/-- mixed units: the magnitude of `a ± b` is the exact sum / difference of the operands' magnitudes
up to `|s₁|·(Ea(|x| + ŷ) + cb)`, where `cb = convBoundIn M s₂ s₁ y` bounds the error of converting
`b` and `ŷ = |s₂/s₁|·|y| + cb` the converted amount -/
theorem addsub_mag {M : ErrModel} (L : Laws R M) (isSub : Bool) (a b : Q A U) (s1 s2 x y : Rat)
    (hne : b.unit ≠ a.unit)
    (hs1 : R.val (T.scale a.unit) = some s1) (hs2 : R.val (T.scale b.unit) = some s2) (hs1ne : s1 ≠ 0)
    (hx : R.val a.amount = some x) (hy : R.val b.amount = some y)
    (hsafe : Oracle.convSafe M s2 s1 y = true)
    (hsafe2 : M.safe (ratAbs x + (ratAbs (s2 / s1) * ratAbs y + Oracle.convBoundIn M s2 s1 y)
      + M.Ea (ratAbs x + (ratAbs (s2 / s1) * ratAbs y + Oracle.convBoundIn M s2 s1 y))) = true) :
    ∃ r z, (if isSub then hrSub R T a b else hrAdd R T a b) = .ok r ∧ r.unit = a.unit ∧
      R.val r.amount = some z ∧
      ratAbs (z * s1 - (if isSub then x * s1 - y * s2 else x * s1 + y * s2)) ≤
        ratAbs s1 * (M.Ea (ratAbs x + (ratAbs (s2 / s1) * ratAbs y + Oracle.convBoundIn M s2 s1 y))
          + Oracle.convBoundIn M s2 s1 y) := by
  obtain ⟨c, y', heq, hy'v, hy'e, hy'b⟩ := equiv_ok R T L hne hs2 hs1 hs1ne hy hsafe
  have hcb := convBoundIn_nonneg L.wf s2 s1 y
  simp only [ratAbs_eq_abs] at hsafe2 ⊢
  set W := |x| + (|s2 / s1| * |y| + Oracle.convBoundIn M s2 s1 y)
  have hW0 : 0 ≤ W :=
    add_nonneg (abs_nonneg x) (add_nonneg (mul_nonneg (abs_nonneg _) (abs_nonneg _)) hcb)
  have hWW := le_abs_self W
  have hEa := L.wf.Ea_nonneg W
  -- `x ± y'` by one step of the laws, everything bounded by `W`
  have hy'W : |y'| ≤ W := hy'b.trans (le_add_of_nonneg_left (abs_nonneg x))
  have hxy : |if isSub then x - y' else x + y'| ≤ W := by
    cases isSub
    · exact (abs_add_le x y').trans (add_le_add le_rfl hy'b)
    · exact (abs_sub x y').trans (add_le_add le_rfl hy'b)
  obtain ⟨d, z, hop, hzv, hze⟩ := L.addsub_le isSub hx hy'v
    ((le_add_of_nonneg_right (le_trans (abs_nonneg y') hy'b)).trans hWW) (hy'W.trans hWW)
    (hxy.trans hWW) (L.wf.safe_of_le hW0 (le_add_of_nonneg_right hEa) hsafe2)
  refine ⟨⟨d, a.unit⟩, z, ?_, rfl, hzv, ?_⟩
  · rw [hrAddSub_ite, hrAddSub, heq]
    exact congrArg _ hop
  · have hρ : s2 / s1 * s1 = s2 := div_mul_cancel₀ s2 hs1ne
    have key : z * s1 - (if isSub then x * s1 - y * s2 else x * s1 + y * s2) =
        s1 * ((z - if isSub then x - y' else x + y') + if isSub then -(y' - s2 / s1 * y)
          else y' - s2 / s1 * y) := by
      cases isSub <;> simp only [Bool.false_eq_true, if_false, if_true] <;>
        rw [show y * s2 = y * (s2 / s1 * s1) by rw [hρ]] <;> ring
    rw [key, abs_mul]
    refine mul_le_mul_of_nonneg_left ((abs_add_le _ _).trans (add_le_add hze ?_)) (abs_nonneg s1)
    cases isSub
    · exact hy'e
    · rw [if_pos rfl, abs_neg]
      exact hy'e

/-- mixed units: `a / b` is the dimensionless ratio of the magnitudes, `x·s₁/(y·s₂) = x/(ρ·y)`
with `ρ = s₂/s₁`, up to `|x|·cb/((|ρy|−cb)·|ρy|) + E(|x|/(|ρy|−cb))`, `cb = convBoundIn M s₂ s₁ y`:
the bound `Approx.div` propagates for an exact numerator and a divisor known up to `cb` -/
theorem div_ratio {M : ErrModel} (L : Laws R M) (a b : Q A U) (s1 s2 x y : Rat)
    (hne : b.unit ≠ a.unit)
    (hs1 : R.val (T.scale a.unit) = some s1) (hs2 : R.val (T.scale b.unit) = some s2) (hs1ne : s1 ≠ 0)
    (hx : R.val a.amount = some x) (hy : R.val b.amount = some y)
    (hsafe : Oracle.convSafe M s2 s1 y = true)
    (hcb : Oracle.convBoundIn M s2 s1 y < ratAbs (s2 / s1 * y))
    (hsafe2 : M.safe (ratAbs x / (ratAbs (s2 / s1 * y) - Oracle.convBoundIn M s2 s1 y)
      + M.E (ratAbs x / (ratAbs (s2 / s1 * y) - Oracle.convBoundIn M s2 s1 y))) = true) :
    ∃ c z, hrDiv R T a b = .ok c ∧ R.val c = some z ∧
      ratAbs (z - x / (s2 / s1 * y)) ≤
        ratAbs x * Oracle.convBoundIn M s2 s1 y /
            ((ratAbs (s2 / s1 * y) - Oracle.convBoundIn M s2 s1 y) * ratAbs (s2 / s1 * y))
          + M.E (ratAbs x / (ratAbs (s2 / s1 * y) - Oracle.convBoundIn M s2 s1 y)) := by
  obtain ⟨c, y', heq, hy'v, hy'e, -⟩ := equiv_ok R T L hne hs2 hs1 hs1ne hy hsafe
  have hcb0 := convBoundIn_nonneg L.wf s2 s1 y
  simp only [ratAbs_eq_abs] at hcb hsafe2 ⊢
  set t := s2 / s1 * y
  set cb := Oracle.convBoundIn M s2 s1 y
  have ht0 : |t| ≠ 0 := (hcb0.trans_lt hcb).ne'
  have hlo : |t| - cb ≠ 0 := (sub_pos.mpr hcb).ne'
  have e : |x / t| + |x| * cb / (|t| * (|t| - cb)) = |x| / (|t| - cb) := by
    rw [abs_div]
    exact div_add_div_sub ht0 hlo
  obtain ⟨d, hdiv, z, hzv, hze⟩ := (exact_sound R hx).div L (y := ⟨t, cb, true⟩) ⟨y', hy'v, hy'e⟩
    (by rw [exact_div, if_neg (not_le.mpr hcb)]) (by simpa only [e, Bool.true_and] using hsafe2)
  refine ⟨d, z, by rw [hrDiv_eq, heq]; exact hdiv, hzv, ?_⟩
  simpa only [e, mul_comm (|t| - cb)] using hze

/-- non-vacuity: the conversion range condition `hsafe` of `addsub_mag` / `div_ratio` holds for
2 ft + 7 in (decimal) -/
example : Oracle.convSafe ErrModel.dec (254 / 10000) (3048 / 10000) 7 = true := by decide +kernel

end Qty.C03
