import QtyModel.Generated.Features
import QtyModel.Generated.Catalogue
/-
  C19 — Every feature combination builds and is self-contained.  (partial: cargo / rustc are modelled)

  The feature graph (`[features]` of Cargo.toml), the `#[cfg(feature = ...)] pub mod` gates of
  src/lib.rs, the three cfg'd `AmountT` definitions and the `use crate::<module>` edges of the
  catalogue modules are regenerated on every run (`Generated/Features.lean`).
  `imports_closed_all` quantifies over ALL sets of requested features (not over a sample).
-/
namespace Qty.C19
open Qty.Features

abbrev tbl : Table := Gen.Features.featuresResolved

theorem stepSet_sound (t : Table) (req s : List Text) (hs : ∀ f ∈ s, Reach t req f) :
    ∀ f ∈ stepSet t s, Reach t req f := by
  intro f hf
  rcases List.mem_append.mp hf with h | h
  · exact hs f h
  · obtain ⟨g, hg, hfg⟩ := List.mem_flatMap.mp (List.mem_filter.mp h).1
    exact Reach.step g f (hs g hg) hfg

theorem closureAux_sound (t : Table) (req : List Text) (n : Nat) (s : List Text)
    (hs : ∀ f ∈ s, Reach t req f) : ∀ f ∈ closureAux t n s, Reach t req f := by
  induction n generalizing s with
  | zero => exact hs
  | succ n ih => exact ih _ (stepSet_sound t req s hs)

/-- the executable closure is sound for cargo's resolution relation -/
theorem closure_sound (req : List Text) : ∀ f ∈ closure tbl req, Reach tbl req f :=
  closureAux_sound tbl req _ req Reach.base

/-- what a set of features pulls in is pulled in by any request that reaches all of them -/
theorem reach_trans_list (req base : List Text) (f : Text) (hb : ∀ g ∈ base, Reach tbl req g)
    (hf : Reach tbl base f) : Reach tbl req f := by
  induction hf with
  | base f h => exact hb f h
  | step g' f _ hd ih => exact Reach.step g' f ih hd

/-- what one feature pulls in is pulled in by any request that reaches it -/
theorem reach_trans (req : List Text) (g f : Text) (hg : Reach tbl req g) (hf : Reach tbl [g] f) :
    Reach tbl req f :=
  reach_trans_list req [g] f (fun _ h => List.mem_singleton.mp h ▸ hg) hf

/-- enabling more never disables -/
theorem reach_mono (req req' : List Text) (h : ∀ f ∈ req, f ∈ req') (f : Text) (hf : Reach tbl req f) :
    Reach tbl req' f :=
  reach_trans_list req' req f (fun g hg => Reach.base g (h g hg)) hf

/-- the gated catalogue modules: (module, gate feature) -/
def gatedModules : List (Text × Text) :=
  Gen.Features.gates.filterMap (fun p => (gateFeature p.2).map (fun g => (p.1, g)))

def gateOf (m : Text) : Option Text := (gatedModules.find? (fun p => p.1 == m)).map (·.2)

/-- the `crate::<module>` references of a gated module: (features required by the enclosing
`#[cfg]` items, module referred to) -/
def importsOf (m : Text) : List (List Text × Text) :=
  ((Gen.Features.imports.find? (fun p => p.1 == m)).map (·.2)).getD []

/-- table fact, checked by the kernel on the regenerated tables: enabling the feature of a module
(together with the features a `#[cfg]` around the reference requires) ALONE enables the feature of
every gated module it refers to -/
def singleClosed : Bool :=
  gatedModules.all (fun (m, g) =>
    (importsOf m).all (fun (cs, m') =>
      match gateOf m' with
      | some g' => (closure tbl (g :: cs)).contains g'
      | none => Gen.Features.plainModules.contains m'))

theorem imports_closed_single : singleClosed = true := by decide +kernel

/-- For EVERY set of requested features: every enabled catalogue module refers (in code whose
`#[cfg]` conditions are met) only to modules that are enabled too (or always present) — no feature
combination has a dangling import. -/
theorem imports_closed_all (req : List Text) (m g : Text) (hm : (m, g) ∈ gatedModules)
    (hen : Reach tbl req g) (cs : List Text) (m' : Text)
    (himp : (cs, m') ∈ importsOf m) (hcs : ∀ c ∈ cs, Reach tbl req c) :
    (∃ g', gateOf m' = some g' ∧ Reach tbl req g') ∨
    (gateOf m' = none ∧ m' ∈ Gen.Features.plainModules) := by
  have h := List.all_eq_true.mp (List.all_eq_true.mp imports_closed_single (m, g) hm) (cs, m') himp
  cases hg : gateOf m' with
  | some g' =>
    have hc : g' ∈ closure tbl (g :: cs) := by simpa [hg] using h
    exact .inl ⟨g', rfl, reach_trans_list req (g :: cs) g' (List.forall_mem_cons.mpr ⟨hen, hcs⟩)
      (closure_sound _ g' hc)⟩
  | none => exact .inr ⟨rfl, by simpa [hg] using h⟩

/-- non-vacuity: the table has unconditional references to gated modules -/
example : (gatedModules.any (fun p => (importsOf p.1).any (fun e => e.1.isEmpty && (gateOf e.2).isSome))) = true := by
  decide +kernel

/-- exactly one definition of `AmountT` is compiled in every configuration
(fpdec on/off x 32/64-bit target; the code points spell `fpdec`, `32`, `64`) -/
theorem amount_type_unique :
    [[], [[102, 112, 100, 101, 99]]].all (fun feats => [[51, 50], [54, 52]].all (fun w =>
      (Gen.Features.amountCfgs.filter (fun p => cfgEval feats w p.2)).length == 1)) = true := by
  decide +kernel

/-- the amount type is selected by the feature `fpdec` alone: no other feature (in particular not
`serde`, whose entry `fpdec?/serde-as-str` is a WEAK dependency feature) pulls `fpdec` in, so
enabling further features never swaps `f64` for `Decimal` under existing code (the code points
spell `fpdec`) -/
theorem only_fpdec_selects_decimal :
    tbl.all (fun p => p.1 == [102, 112, 100, 101, 99] || !(closure tbl [p.1]).contains [102, 112, 100, 101, 99]) = true := by
  decide +kernel

/-- the module of a derived quantity imports the modules of both operand types, and its feature
enables theirs: the derivation operators are available whenever the quantity is (the code points
spell `AmountT`) -/
theorem derivation_operands_enabled :
    Gen.Catalogue.items.all (fun it =>
      match MacroFront.expand it with
      | .error _ => false
      | .ok d =>
        match d.derived with
        | none => true
        | some dv =>
          let feat := d.name.map Case.toLower
          [dv.lhs, dv.rhs].all (fun t =>
            t == [65, 109, 111, 117, 110, 116, 84] || (closure tbl [feat]).contains (t.map Case.toLower))) = true := by
  decide +kernel

/-- all 14 quantity features are declared and gate exactly their own module (the code points spell
`fpdec`) -/
theorem fourteen_gated_modules :
    (gatedModules.filter (fun p => p.1 == p.2 && p.2 != [102, 112, 100, 101, 99])).length = 14 := by
  decide +kernel

/-! `Gen.Features.cfgSites` is the regenerated inventory of EVERY place where conditional compilation
enters the library build (`src/*.rs`, `qty-macros/src/*.rs`; `#[cfg(test)]` items excluded). -/

def fpdecName : Text := [102, 112, 100, 101, 99]
def stdName : Text := [115, 116, 100]
def serdeName : Text := [115, 101, 114, 100, 101]
def serdeDerives : Text := Text.ofString "attr:derive ( : : serde : : Deserialize , : : serde : : Serialize )"

/-- what a site of conditional compilation may look like: a module declaration or a re-export
(which names EXIST — the subject of `imports_closed_all`, not of results), the crate-level
`cfg_attr(not(feature = "std"), no_std)`, the serde derives under `feature = "serde"` (they only ADD
impls), or code whose predicate mentions no feature other than the amount-type selector `fpdec` -/
def siteOk (what : Text) (c : Cfg) : Bool :=
  if what == Text.ofString "mod" || what == Text.ofString "use" then true
  else if what == Text.ofString "attr:no_std" then cfgFeats c == [stdName]
  else if what == serdeDerives then cfgFeats c == [serdeName]
  else (cfgFeats c).all (· == fpdecName)

/-- every site in the current source is of one of these kinds: no function body, impl, statement or
expression is compiled differently depending on a quantity feature, `std` or `serde` -/
theorem code_depends_on_fpdec_only :
    Gen.Features.cfgSites.all (fun s => siteOk s.2.1 s.2.2) = true := by
  decide +kernel

mutual
/-- a predicate evaluates the same under two feature sets that agree on every feature it mentions -/
theorem cfgEval_agree (f1 f2 : List Text) (w : Text) :
    ∀ c : Cfg, (∀ n ∈ cfgFeats c, f1.contains n = f2.contains n) → cfgEval f1 w c = cfgEval f2 w c
  | .feature n, h => by simpa [cfgEval] using h n (by simp [cfgFeats])
  | .kv _ _, _ => by simp [cfgEval]
  | .flag _, _ => by simp [cfgEval]
  | .not c, h => by simp only [cfgEval]; rw [cfgEval_agree f1 f2 w c (by simpa [cfgFeats] using h)]
  | .all cs, h => by simp only [cfgEval]; exact cfgAll_agree f1 f2 w cs (by simpa [cfgFeats] using h)
  | .any cs, h => by simp only [cfgEval]; exact cfgAny_agree f1 f2 w cs (by simpa [cfgFeats] using h)
theorem cfgAll_agree (f1 f2 : List Text) (w : Text) :
    ∀ cs : List Cfg, (∀ n ∈ cfgFeatsL cs, f1.contains n = f2.contains n) → cfgAll f1 w cs = cfgAll f2 w cs
  | [], _ => rfl
  | c :: cs, h => by
    simp only [cfgFeatsL, List.mem_append] at h
    simp only [cfgAll]
    rw [cfgEval_agree f1 f2 w c fun n hn => h n (.inl hn), cfgAll_agree f1 f2 w cs fun n hn => h n (.inr hn)]
theorem cfgAny_agree (f1 f2 : List Text) (w : Text) :
    ∀ cs : List Cfg, (∀ n ∈ cfgFeatsL cs, f1.contains n = f2.contains n) → cfgAny f1 w cs = cfgAny f2 w cs
  | [], _ => rfl
  | c :: cs, h => by
    simp only [cfgFeatsL, List.mem_append] at h
    simp only [cfgAny]
    rw [cfgEval_agree f1 f2 w c fun n hn => h n (.inl hn), cfgAny_agree f1 f2 w cs fun n hn => h n (.inr hn)]
end

theorem agree_of_all_fpdec {f1 f2 ns : List Text} (h : f1.contains fpdecName = f2.contains fpdecName)
    (hc : ns.all (· == fpdecName) = true) : ∀ n ∈ ns, f1.contains n = f2.contains n :=
  fun n hn => eq_of_beq (List.all_eq_true.mp hc n hn) ▸ h

/-- a predicate that mentions only `fpdec` evaluates the same under any two feature sets that agree on `fpdec` -/
theorem cfgEval_congr (f1 f2 : List Text) (w : Text) (h : f1.contains fpdecName = f2.contains fpdecName) :
    ∀ c : Cfg, (cfgFeats c).all (· == fpdecName) = true → cfgEval f1 w c = cfgEval f2 w c :=
  fun c hc => cfgEval_agree f1 f2 w c (agree_of_all_fpdec h hc)
theorem cfgAll_congr (f1 f2 : List Text) (w : Text) (h : f1.contains fpdecName = f2.contains fpdecName) :
    ∀ cs : List Cfg, (cfgFeatsL cs).all (· == fpdecName) = true → cfgAll f1 w cs = cfgAll f2 w cs :=
  fun cs hc => cfgAll_agree f1 f2 w cs (agree_of_all_fpdec h hc)
theorem cfgAny_congr (f1 f2 : List Text) (w : Text) (h : f1.contains fpdecName = f2.contains fpdecName) :
    ∀ cs : List Cfg, (cfgFeatsL cs).all (· == fpdecName) = true → cfgAny f1 w cs = cfgAny f2 w cs :=
  fun cs hc => cfgAny_agree f1 f2 w cs (agree_of_all_fpdec h hc)

/-- FOR ALL pairs of feature sets that select the same amount type: every site that gates CODE (not a
module declaration, a re-export, `no_std` or the serde derives) is compiled the same way under both —
so enabling additional features leaves the code of the already-available operations unchanged -/
theorem results_feature_independent (f1 f2 : List Text) (w : Text)
    (h : f1.contains fpdecName = f2.contains fpdecName)
    (file what : Text) (c : Cfg) (hs : (file, what, c) ∈ Gen.Features.cfgSites)
    (hcode : what ≠ Text.ofString "mod" ∧ what ≠ Text.ofString "use" ∧
             what ≠ Text.ofString "attr:no_std" ∧ what ≠ serdeDerives) :
    cfgEval f1 w c = cfgEval f2 w c := by
  have hsite := List.all_eq_true.mp code_depends_on_fpdec_only _ hs
  simp only [siteOk, hcode, Bool.or_eq_true, beq_iff_eq, or_self, if_false] at hsite
  exact cfgEval_congr f1 f2 w h c hsite

/-- non-vacuity: there ARE sites that gate code (the two `fpdec` branches of `Quantity::fmt`) -/
example : Gen.Features.cfgSites.any (fun s => s.2.1 == Text.ofString "code") = true := by decide +kernel

/-- non-vacuity: `energy` pulls in force, mass, acceleration, speed, length, duration -/
example : (closure tbl [Text.ofString "energy"]).length = 7 := by decide +kernel

end Qty.C19
