import QtyModel.Props.C05
import QtyModel.Derived
import QtyModel.Lemmas.Basic
import QtyModel.Lemmas.Res
/-
  C04 — Derived products and quotients preserve the physical value.

  The bound `Oracle.derivedBound` is the expression the run-time oracle `Oracle.c04` evaluates on
  implementation outputs.
-/
namespace Qty.C04

-- As in C05: the statements carry these instances; helpers that do not hand them on silence the
-- linter.
variable {A U V W : Type} [DecidableEq U] [DecidableEq V] [DecidableEq W] (R : Arith A)

/-- which operators a derivation generates: `Q = L * R` gives `L*R`, `R*L` (once if `L = R`),
`Q/R = L` and `Q/L = R`; `Q = L / R` gives `L/R`, `Q*R`, `R*Q` and `L/Q = R` -/
theorem impls_of_product (q l r : Text) (h : l ≠ r) :
    implsOf q (some ⟨l, true, r⟩) =
      [⟨true, l, r, q⟩, ⟨true, r, l, q⟩, ⟨false, q, r, l⟩, ⟨false, q, l, r⟩] := by
  simp [implsOf, implMulQties, implDivQties, h]

theorem impls_of_square (q l : Text) :
    implsOf q (some ⟨l, true, l⟩) = [⟨true, l, l, q⟩, ⟨false, q, l, l⟩] := by
  simp [implsOf, implMulQties, implDivQties]

theorem impls_of_quotient (q l r : Text) (h : q ≠ r) :
    implsOf q (some ⟨l, false, r⟩) =
      [⟨false, l, r, q⟩, ⟨true, q, r, l⟩, ⟨true, r, q, l⟩, ⟨false, l, q, r⟩] := by
  simp [implsOf, implMulQties, implDivQties, h]

/-! ### the error analysis of both generated bodies, once (`op` is the amount type's `*` or `/`)

`pa`, `ps` are the exact product (quotient) of the operand amounts and of the operand scales, `p`,
`s` what the amount type computed for them, `pv`, `sv` their values.  With `P = |pa| + E pa` and
`S = |ps| + E ps` the fitted branch computes `x = p·s` of magnitude at most
`fitMax = P·S + E(P·S)` and then `x / s_w` for the chosen unit `w`. -/

/-- the largest magnitude the reference-unit amount `p·s` handed to `_fit` can have -/
def fitMax (M : ErrModel) (pa ps : Rat) : Rat :=
  (|pa| + M.E pa) * (|ps| + M.E ps) + M.E ((|pa| + M.E pa) * (|ps| + M.E ps))

theorem fitMax_nonneg {M : ErrModel} (Wf : M.WF) (pa ps : Rat) : 0 ≤ fitMax M pa ps :=
  add_nonneg (mul_nonneg (Wf.abs_add_E_nonneg pa) (Wf.abs_add_E_nonneg ps)) (Wf.E_nonneg _)

theorem derivedSafe_iff {M : ErrModel} {pa ps sw : Rat} :
    Oracle.derivedSafe M pa ps sw = true ↔
      M.safe (|pa| + M.E pa) = true ∧ M.safe (|ps| + M.E ps) = true ∧
      M.safe (fitMax M pa ps) = true ∧
      M.safe (fitMax M pa ps / sw + M.E (fitMax M pa ps / sw)) = true := by
  simp only [Oracle.derivedSafe, fitMax, Bool.and_eq_true, ratAbs_eq_abs, and_assoc]

/-- the exact product (quotient) of the amounts and of the scales are in range -/
theorem safe_of_derivedSafe {M : ErrModel} (Wf : M.WF) {pa ps sw : Rat}
    (h : Oracle.derivedSafe M pa ps sw = true) : M.safe pa = true ∧ M.safe ps = true := by
  obtain ⟨hP, hS, -⟩ := derivedSafe_iff.mp h
  exact ⟨Wf.safe_of_abs_le ((le_add_of_nonneg_right (Wf.E_nonneg pa)).trans (le_abs_self _)) hP,
    Wf.safe_of_abs_le ((le_add_of_nonneg_right (Wf.E_nonneg ps)).trans (le_abs_self _)) hS⟩

theorem safe_fitMax_of_derivedSafe {M : ErrModel} {pa ps sw : Rat}
    (h : Oracle.derivedSafe M pa ps sw = true) : M.safe (fitMax M pa ps) = true :=
  (derivedSafe_iff.mp h).2.2.1

/-- for a positive scale `derivedSafe` covers the quotient `fitMax / s_w` -/
theorem safe_quot_of_derivedSafe {M : ErrModel} (Wf : M.WF) {pa ps sw : Rat} (hsw : 0 < sw)
    (h : Oracle.derivedSafe M pa ps sw = true) : M.safe (fitMax M pa ps / sw) = true :=
  Wf.safe_of_le (div_nonneg (fitMax_nonneg Wf pa ps) hsw.le)
    (le_add_of_nonneg_right (Wf.E_nonneg _)) (derivedSafe_iff.mp h).2.2.2

/-- the two roundings before the tail: the product of the computed factors against `pa·ps` -/
theorem core_bound {M : ErrModel} {pa ps pv sv : Rat}
    (hpe : |pv - pa| ≤ M.E pa) (hse : |sv - ps| ≤ M.E ps) :
    |pv * sv - pa * ps| ≤ (|pa| + M.E pa) * M.E ps + |ps| * M.E pa :=
  (abs_mul_sub_mul_le hpe hse).trans_eq (by ring)

set_option linter.unusedSectionVars false in
/-- the fitted branch: the product `x = p·s` exists, and for every unit `w` of non-zero scale
`s_w` with `fitMax / s_w` in range the quotient `x / s_w` exists and has magnitude within
`derivedBound` of `pa·ps` -/
theorem fitted_steps {M : ErrModel} (L : Laws R M) (TO : QT A W) {pa ps pv sv : Rat} {p s : A}
    (hp : R.val p = some pv) (hs : R.val s = some sv)
    (hpe : |pv - pa| ≤ M.E pa) (hse : |sv - ps| ≤ M.E ps)
    (hsX : M.safe (fitMax M pa ps) = true) :
    ∃ x, R.mul p s = .ok x ∧ ∀ (w : W) (sw : Rat), R.val (TO.scale w) = some sw → sw ≠ 0 →
      M.safe (fitMax M pa ps / sw) = true →
      ∃ c z, R.div x (TO.scale w) = .ok c ∧ R.val c = some z ∧
        |z * sw - pa * ps| ≤ Oracle.derivedBound M pa ps sw := by
  have hcore := core_bound hpe hse
  simp only [Oracle.derivedBound, fitMax, ratAbs_eq_abs] at hsX ⊢
  set P := |pa| + M.E pa
  set S := |ps| + M.E ps
  have hP0 : 0 ≤ P := L.wf.abs_add_E_nonneg pa
  have hS0 : 0 ≤ S := L.wf.abs_add_E_nonneg ps
  have hX0 : 0 ≤ P * S + M.E (P * S) := fitMax_nonneg L.wf pa ps
  have hPS : |pv * sv| ≤ P * S := by
    rw [abs_mul]
    exact mul_le_mul (abs_le_of_abs_sub_le hpe) (abs_le_of_abs_sub_le hse) (abs_nonneg _) hP0
  obtain ⟨x, xv, hmul, hxv, hxe⟩ := L.mul_le hp hs (hPS.trans (le_abs_self _))
    (L.wf.safe_of_le (mul_nonneg hP0 hS0) (le_add_of_nonneg_right (L.wf.E_nonneg _)) hsX)
  refine ⟨x, hmul, fun w sw hsw hsw0 hsQ => ?_⟩
  have hquot : |xv / sw| ≤ |(P * S + M.E (P * S)) / sw| := by
    rw [abs_div, abs_div, abs_of_nonneg hX0]
    exact div_le_div_of_nonneg_right ((abs_le_of_abs_sub_le hxe).trans (add_le_add hPS le_rfl))
      (abs_nonneg _)
  obtain ⟨c, z, hdiv, hzv, hze⟩ := L.div_le hxv hsw hsw0 hquot hsQ
  refine ⟨c, z, hdiv, hzv, ?_⟩
  rw [show z * sw - pa * ps = sw * (z - xv / sw) + (xv - pv * sv) + (pv * sv - pa * ps) by
    field_simp; ring]
  have h1 : |sw * (z - xv / sw)| ≤ |sw| * M.E ((P * S + M.E (P * S)) / sw) := by
    rw [abs_mul]; exact mul_le_mul_of_nonneg_left hze (abs_nonneg _)
  exact (abs_add_three _ _ _).trans
    ((add_le_add (add_le_add h1 hxe) hcore).trans_eq (add_assoc _ _ _).symm)

/-- the natural branch: the amount is `p` itself, in a unit whose scale is `sv` -/
theorem natural_bound {M : ErrModel} (Wf : M.WF) {pa ps pv sv : Rat}
    (hpe : |pv - pa| ≤ M.E pa) (hse : |sv - ps| ≤ M.E ps) :
    |pv * sv - pa * ps| ≤ Oracle.derivedBound M pa ps sv := by
  have hcore := core_bound hpe hse
  simp only [Oracle.derivedBound, ratAbs_eq_abs]
  rw [add_assoc]
  exact hcore.trans (le_add_of_nonneg_left
    (add_nonneg (mul_nonneg (abs_nonneg sv) (Wf.E_nonneg _)) (Wf.E_nonneg _)))

section
-- `hP`, `hS`: one rounded `op` on the amounts and on the scales, in the form in which
-- `L.mul_le … le_rfl` and `L.div_le … le_rfl` provide it
variable {M : ErrModel} (L : Laws R M) (op : A → A → Res A)
  (TL : QT A U) (TR : QT A V) (TO : QT A W) (l : Q A U) (r : Q A V) {pa ps : Rat}
  (hP : M.safe pa = true → ∃ p pv, op l.amount r.amount = .ok p ∧ R.val p = some pv ∧
    |pv - pa| ≤ M.E pa)
  (hS : M.safe ps = true → ∃ s sv, op (TL.scale l.unit) (TR.scale r.unit) = .ok s ∧
    R.val s = some sv ∧ |sv - ps| ≤ M.E ps)
include L hP hS

set_option linter.unusedSectionVars false in
/-- Existence: both branches of the body succeed, with a result within `derivedBound`, when the
range condition holds for every unit the result may get.  For every NEGATIVE result-unit scale the
quotient `fitMax / s_u` itself (not only `fitMax / s_u + E (fitMax / s_u)`, which `derivedSafe`
checks and which may cancel when `fitMax / s_u < 0`) has to be in range. -/
theorem derivedOp_mag (hI : TO.fitIdentity = none) (href : TO.ref ∈ TO.units)
    (sc : W → Rat) (hsc : ∀ u ∈ TO.units, R.val (TO.scale u) = some (sc u) ∧ sc u ≠ 0)
    (hsafe : ∀ u ∈ TO.units, Oracle.derivedSafe M pa ps (sc u) = true)
    (hneg : ∀ u ∈ TO.units, sc u < 0 → M.safe (fitMax M pa ps / sc u) = true) :
    ∃ res z, derivedOp R op TL TR TO l r = .ok res ∧ res.unit ∈ TO.units ∧
      R.val res.amount = some z ∧
      ratAbs (z * sc res.unit - pa * ps) ≤ Oracle.derivedBound M pa ps (sc res.unit) := by
  obtain ⟨hs1, hs2⟩ := safe_of_derivedSafe L.wf (hsafe TO.ref href)
  obtain ⟨s, sv, hsop, hsv, hse⟩ := hS hs2
  obtain ⟨p, pv, hpop, hpv, hpe⟩ := hP hs1
  simp only [ratAbs_eq_abs]
  cases hf : unitFromScale R TO s with
  | some w =>
    have hwm : w ∈ TO.units := List.mem_of_find?_eq_some hf
    have hwb := (L.beq_iff (hsc w hwm).1 hsv).mp (List.find?_some hf :)
    exact ⟨⟨p, w⟩, pv, by rw [derivedOp_natural hsop hf, hpop]; rfl, hwm, hpv,
      hwb ▸ natural_bound L.wf hpe hse⟩
  | none =>
    obtain ⟨x, hmul, hdiv⟩ := fitted_steps R L TO hpv hsv hpe hse
      (safe_fitMax_of_derivedSafe (hsafe TO.ref href))
    obtain ⟨w, hwel, hfit⟩ := C05.fit_eq_div R TO hI href x
    have hwm : w ∈ TO.units := ((C05.mem_eligible TO w).mp hwel).1
    obtain ⟨hswv, hsw0⟩ := hsc w hwm
    obtain ⟨c, z, hc, hz, hbound⟩ := hdiv w _ hswv hsw0 <| by
      rcases lt_or_gt_of_ne hsw0 with hlt | hgt
      · exact hneg w hwm hlt
      · exact safe_quot_of_derivedSafe L.wf hgt (hsafe w hwm)
    refine ⟨⟨c, w⟩, z, ?_, hwm, hz, hbound⟩
    rw [derivedOp_fitted hsop hf, hpop, Res.ok_bind, hmul, Res.ok_bind, hfit, hc]
    rfl

/-- `derivedOp_mag` for positive result-unit scales (those of every generated unit table) -/
theorem derivedOp_mag_pos (hI : TO.fitIdentity = none) (href : TO.ref ∈ TO.units)
    (sc : W → Rat) (hsc : ∀ u ∈ TO.units, R.val (TO.scale u) = some (sc u) ∧ 0 < sc u)
    (hsafe : ∀ u ∈ TO.units, Oracle.derivedSafe M pa ps (sc u) = true) :
    ∃ res z, derivedOp R op TL TR TO l r = .ok res ∧ res.unit ∈ TO.units ∧
      R.val res.amount = some z ∧
      ratAbs (z * sc res.unit - pa * ps) ≤ Oracle.derivedBound M pa ps (sc res.unit) :=
  derivedOp_mag R L op TL TR TO l r hP hS hI href sc
    (fun u hu => ⟨(hsc u hu).1, (hsc u hu).2.ne'⟩) hsafe
    (fun u hu hlt => absurd hlt (hsc u hu).2.le.not_gt)

omit [DecidableEq U] [DecidableEq V] in
/-- Soundness: for the result `res` the body ACTUALLY returned, the bound holds as soon as the
scale `sw` of the unit `res` carries is positive and the range condition holds for it. -/
theorem derivedOp_sound (hI : TO.fitIdentity = none)
    (res : Q A W) (hres : derivedOp R op TL TR TO l r = .ok res)
    {sw : Rat} (hswv : R.val (TO.scale res.unit) = some sw) (hsw0 : 0 < sw)
    (hsafe : Oracle.derivedSafe M pa ps sw = true) :
    ∃ z, R.val res.amount = some z ∧
      ratAbs (z * sw - pa * ps) ≤ Oracle.derivedBound M pa ps sw := by
  obtain ⟨hs1, hs2⟩ := safe_of_derivedSafe L.wf hsafe
  obtain ⟨s, sv, hsop, hsv, hse⟩ := hS hs2
  obtain ⟨p, pv, hpop, hpv, hpe⟩ := hP hs1
  simp only [ratAbs_eq_abs]
  cases hf : unitFromScale R TO s with
  | some w =>
    rw [derivedOp_natural hsop hf, hpop] at hres
    cases hres
    have hwb := (L.beq_iff hswv hsv).mp (List.find?_some hf :)
    exact ⟨pv, hpv, hwb ▸ natural_bound L.wf hpe hse⟩
  | none =>
    obtain ⟨x, hmul, hdiv⟩ := fitted_steps R L TO hpv hsv hpe hse (safe_fitMax_of_derivedSafe hsafe)
    rw [derivedOp_fitted hsop hf, hpop, Res.ok_bind, hmul, Res.ok_bind] at hres
    obtain ⟨c, z, hc, hz, hbound⟩ := hdiv res.unit _ hswv hsw0.ne'
      (safe_quot_of_derivedSafe L.wf hsw0 hsafe)
    cases hc.symm.trans (C05.fit_unit_mem R TO hI x res hres).2
    exact ⟨z, hz, hbound⟩

end

/-- The reference-unit magnitude of `l * r` is the exact product of the operands'
reference-unit magnitudes up to `derivedBound`, on BOTH branches of the generated body
(natural unit found by `unit_from_scale`, or `_fit`).
`a`, `b`: exact operand amounts; `sl`, `sr`: exact operand unit scales; `sc`: exact (positive)
scales of the result quantity's units.  With the scales only assumed non-zero the statement is false
(`dmul_mag_false_for_negative_scale`): for a negative scale `s_u` the last conjunct of
`derivedSafe`, `safe (fitMax / s_u + E (fitMax / s_u))`, does not bound the quotient `x / s_u`
that `_fit` computes (the sum can cancel); `derivedOp_mag` states a sufficient side condition. -/
theorem dmul_mag {M : ErrModel} (L : Laws R M) (TL : QT A U) (TR : QT A V) (TO : QT A W)
    (hI : TO.fitIdentity = none) (href : TO.ref ∈ TO.units)
    (l : Q A U) (r : Q A V) (a b sl sr : Rat)
    (ha : R.val l.amount = some a) (hb : R.val r.amount = some b)
    (hsl : R.val (TL.scale l.unit) = some sl) (hsr : R.val (TR.scale r.unit) = some sr)
    (sc : W → Rat) (hsc : ∀ u ∈ TO.units, R.val (TO.scale u) = some (sc u) ∧ 0 < sc u)
    (hsafe : ∀ u ∈ TO.units, Oracle.derivedSafe M (a * b) (sl * sr) (sc u) = true) :
    ∃ res z, dmul R TL TR TO l r = .ok res ∧ res.unit ∈ TO.units ∧ R.val res.amount = some z ∧
      ratAbs (z * sc res.unit - (a * b) * (sl * sr)) ≤
        Oracle.derivedBound M (a * b) (sl * sr) (sc res.unit) :=
  dmul_eq R TL TR TO l r ▸ derivedOp_mag_pos R L R.mul TL TR TO l r
    (L.mul_le ha hb le_rfl) (L.mul_le hsl hsr le_rfl) hI href sc hsc hsafe

/-- the same for `l / r` (non-zero divisor amount and divisor scale) -/
theorem ddiv_mag {M : ErrModel} (L : Laws R M) (TL : QT A U) (TR : QT A V) (TO : QT A W)
    (hI : TO.fitIdentity = none) (href : TO.ref ∈ TO.units)
    (l : Q A U) (r : Q A V) (a b sl sr : Rat)
    (ha : R.val l.amount = some a) (hb : R.val r.amount = some b) (hb0 : b ≠ 0)
    (hsl : R.val (TL.scale l.unit) = some sl) (hsr : R.val (TR.scale r.unit) = some sr) (hsr0 : sr ≠ 0)
    (sc : W → Rat) (hsc : ∀ u ∈ TO.units, R.val (TO.scale u) = some (sc u) ∧ 0 < sc u)
    (hsafe : ∀ u ∈ TO.units, Oracle.derivedSafe M (a / b) (sl / sr) (sc u) = true) :
    ∃ res z, ddiv R TL TR TO l r = .ok res ∧ res.unit ∈ TO.units ∧ R.val res.amount = some z ∧
      ratAbs (z * sc res.unit - (a / b) * (sl / sr)) ≤
        Oracle.derivedBound M (a / b) (sl / sr) (sc res.unit) :=
  ddiv_eq R TL TR TO l r ▸ derivedOp_mag_pos R L R.div TL TR TO l r
    (L.div_le ha hb hb0 le_rfl) (L.div_le hsl hsr hsr0 le_rfl) hI href sc hsc hsafe

namespace NegScale

/-- a (contrived) rounding model: relative error up to 100 %, range `[-10, 10]` -/
def M : ErrModel := { E := fun x => ratAbs x, Ea := fun _ => 0, safe := fun x => decide (ratAbs x ≤ 10) }

/-- exact rational arithmetic that overflows outside the range of `M` (except where
`Laws` demands an exact answer) -/
def Rq : Arith Rat where
  zero := 0
  one := 1
  add := fun a b => .ok (a + b)
  sub := fun a b => .ok (a - b)
  mul := fun a b =>
    if M.safe (a * b) || decide (a = 1) || decide (b = 1) then .ok (a * b) else .error .overflow
  div := fun a b =>
    if b = 0 then .error .divByZero
    else if M.safe (a / b) || decide (b = 1) then .ok (a / b) else .error .overflow
  neg := fun a => .ok (-a)
  beq := fun a b => decide (a = b)
  pcmp := fun a b => some (ratCmp a b)
  val := some
  ofLit := fun _ => none
  same := fun a b => decide (a = b)

theorem Rq_mul {a b : Rat} (h : M.safe (a * b) = true ∨ a = 1 ∨ b = 1) :
    Rq.mul a b = .ok (a * b) :=
  if_pos (by simpa only [Bool.or_eq_true, decide_eq_true_eq, or_assoc] using h)

theorem Rq_div {a b : Rat} (hb : b ≠ 0) (h : M.safe (a / b) = true ∨ b = 1) :
    Rq.div a b = .ok (a / b) :=
  (if_neg hb).trans (if_pos (by simpa only [Bool.or_eq_true, decide_eq_true_eq] using h))

theorem wf : M.WF where
  E_nonneg := fun x => by simp only [M, ratAbs_eq_abs]; exact abs_nonneg x
  E_mono := fun x y h => h
  Ea_nonneg := fun _ => le_refl _
  Ea_mono := fun _ _ _ => le_refl _
  safe_mono := fun x y h hy => by
    simp only [M, decide_eq_true_eq] at *
    exact le_trans h hy

theorem laws : Laws Rq M where
  wf := wf
  mul_ok := by
    intro a b x y ha hb hs
    cases ha; cases hb
    refine ⟨a * b, a * b, Rq_mul (.inl hs), rfl, ?_⟩
    simp only [sub_self, M, ratAbs_eq_abs, abs_zero]; exact abs_nonneg _
  div_ok := by
    intro a b x y ha hb hy hs
    cases ha; cases hb
    refine ⟨a / b, a / b, Rq_div hy (.inl hs), rfl, ?_⟩
    simp only [sub_self, M, ratAbs_eq_abs, abs_zero]; exact abs_nonneg _
  add_ok := by
    intro a b x y ha hb _ _ _
    cases ha; cases hb
    exact ⟨a + b, a + b, rfl, rfl, by simp [M, ratAbs]⟩
  sub_ok := by
    intro a b x y ha hb _ _ _
    cases ha; cases hb
    exact ⟨a - b, a - b, rfl, rfl, by simp [M, ratAbs]⟩
  beq_val := by intro a b x y ha hb; cases ha; cases hb; rfl
  pcmp_val := by intro a b x y ha hb; cases ha; cases hb; rfl
  beq_pcmp := fun a b => (ratCmp_beq_eq a b).symm
  pcmp_flip := fun a b => (ratCmp_flip a b).symm
  one_val := rfl
  zero_val := rfl
  div_self_val := by
    intro a b x ha hb hx
    cases ha; cases hb
    have h1 : M.safe (a / a) = true := by rw [div_self hx]; decide +kernel
    exact ⟨a / a, Rq_div hx (.inl h1), congrArg some (div_self hx)⟩
  one_mul_val := by
    intro c d y hc hd
    cases hc; cases hd
    exact ⟨1 * d, Rq_mul (.inr (.inl rfl)), congrArg some (one_mul d)⟩
  mul_one_val := by
    intro c d y hc hd
    cases hc; cases hd
    exact ⟨d * 1, Rq_mul (.inr (.inr rfl)), congrArg some (mul_one d)⟩
  div_one_val := by
    intro c d y hc hd
    cases hc; cases hd
    exact ⟨d / 1, Rq_div one_ne_zero (.inr rfl), congrArg some (div_one d)⟩

def TI : QT Rat Unit := { units := [()], scale := fun _ => 1, hasPrefix := fun _ => false, ref := () }
def TO : QT Rat Unit := { units := [()], scale := fun _ => -1/100, hasPrefix := fun _ => false, ref := () }

end NegScale

/-- With the result-unit scales only assumed non-zero `dmul_mag` is false: with a
result unit of scale `-1/100` all hypotheses hold, but the operator overflows in `_fit`. -/
theorem dmul_mag_false_for_negative_scale :
    ∃ (M : ErrModel) (R : Arith Rat) (_ : Laws R M) (TL TR TO : QT Rat Unit)
      (l r : Q Rat Unit) (a b sl sr : Rat) (sc : Unit → Rat),
      TO.fitIdentity = none ∧ TO.ref ∈ TO.units ∧
      R.val l.amount = some a ∧ R.val r.amount = some b ∧
      R.val (TL.scale l.unit) = some sl ∧ R.val (TR.scale r.unit) = some sr ∧
      (∀ u ∈ TO.units, R.val (TO.scale u) = some (sc u) ∧ sc u ≠ 0) ∧
      (∀ u ∈ TO.units, Oracle.derivedSafe M (a * b) (sl * sr) (sc u) = true) ∧
      dmul R TL TR TO l r = .error .overflow := by
  refine ⟨NegScale.M, NegScale.Rq, NegScale.laws, NegScale.TI, NegScale.TI, NegScale.TO,
    ⟨1, ()⟩, ⟨1, ()⟩, 1, 1, 1, 1, fun _ => -1/100, rfl, by simp [NegScale.TO], rfl, rfl, rfl, rfl,
    ?_, ?_, ?_⟩
  · intro u _; exact ⟨rfl, by norm_num⟩
  · intro u _
    show Oracle.derivedSafe NegScale.M (1 * 1) (1 * 1) (-1 / 100) = true
    decide +kernel
  · decide +kernel

/-- the same for `ddiv_mag` -/
theorem ddiv_mag_false_for_negative_scale :
    ∃ (M : ErrModel) (R : Arith Rat) (_ : Laws R M) (TL TR TO : QT Rat Unit)
      (l r : Q Rat Unit) (a b sl sr : Rat) (sc : Unit → Rat),
      TO.fitIdentity = none ∧ TO.ref ∈ TO.units ∧
      R.val l.amount = some a ∧ R.val r.amount = some b ∧ b ≠ 0 ∧
      R.val (TL.scale l.unit) = some sl ∧ R.val (TR.scale r.unit) = some sr ∧ sr ≠ 0 ∧
      (∀ u ∈ TO.units, R.val (TO.scale u) = some (sc u) ∧ sc u ≠ 0) ∧
      (∀ u ∈ TO.units, Oracle.derivedSafe M (a / b) (sl / sr) (sc u) = true) ∧
      ddiv R TL TR TO l r = .error .overflow := by
  refine ⟨NegScale.M, NegScale.Rq, NegScale.laws, NegScale.TI, NegScale.TI, NegScale.TO,
    ⟨1, ()⟩, ⟨1, ()⟩, 1, 1, 1, 1, fun _ => -1/100, rfl, by simp [NegScale.TO], rfl, rfl,
    one_ne_zero, rfl, rfl, one_ne_zero, ?_, ?_, ?_⟩
  · intro u _; exact ⟨rfl, by norm_num⟩
  · intro u _
    show Oracle.derivedSafe NegScale.M (1 / 1) (1 / 1) (-1 / 100) = true
    decide +kernel
  · decide +kernel

/-- non-vacuity: the range condition for 3 m · 2 m (decimal), result unit m² -/
example : Oracle.derivedSafe ErrModel.dec 6 1 1 = true := by decide +kernel

end Qty.C04
