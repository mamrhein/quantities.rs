import QtyModel.Ops
import QtyModel.Rate
import QtyModel.Generated.Algos
/- Tie between code and model: the definitions re-emitted from the Rust source (`Generated/Algos.lean`) ARE
   the model's, for `ConversionTable::convert` of `src/converter.rs`. -/
namespace Qty.AlgoTie
open Qty.Gen.Algos

variable {A : Type} (R : Arith A)

theorem table_convert_eq (rows : List (ConvRow A)) (q : Q A Nat) (j : Nat) :
    ConversionTable.convert R rows q j = tconv R rows q j := by
  unfold ConversionTable.convert tconv
  split
  · rfl
  · have hf : (fun (r : ConvRow A) => (decide (r.fromU = q.unit) && decide (r.toU = j))) =
        (fun r => r.fromU == q.unit && r.toU == j) := by
      funext r; rfl
    rw [hf]
    cases List.find? (fun (r : ConvRow A) => r.fromU == q.unit && r.toU == j) rows <;> rfl

end Qty.AlgoTie
