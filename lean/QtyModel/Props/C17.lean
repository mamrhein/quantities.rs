import QtyModel.Serde
import QtyModel.Lemmas.Digits
/-
  C17 — Serialisation round-trips values exactly.  (partial: serde_derive / serde_json are modelled)

  On the serde data-model tree.  The amount codec is a
  parameter: for the decimal back-end it is `str ∘ Display` / `FromStr`
  (`dec_amount_roundtrip`), for the binary back-end it is the JSON number `F64.jsonText`
  (`Props/C17F64.lean`: round trip for finite amounts only).
-/
namespace Qty.C17
open Qty.Serde Qty.Fmt Qty.Digits

theorem unit_ser_is_variant_name (u : UnitDef) : serUnit u = .str u.ident := rfl

/-- a unit read back is the unit itself (variant identifiers are distinct) -/
theorem de_ser_unit (units : List UnitDef) (hn : (units.map (·.ident)).Nodup) (i : Nat) (u : UnitDef)
    (hi : units[i]? = some u) : deUnit units (serUnit u) = some i := by
  show units.findIdx? (fun x => x.ident == u.ident) = some i
  obtain ⟨hlt, rfl⟩ := List.getElem?_eq_some_iff.mp hi
  refine List.findIdx?_eq_some_iff_getElem.mpr ⟨hlt, beq_self_eq_true _, fun j hji hp => ?_⟩
  -- an earlier unit with the same identifier would be the same entry of the `Nodup` list
  have hj : j < (units.map (·.ident)).length := by rw [List.length_map]; omega
  have hi' : i < (units.map (·.ident)).length := by rw [List.length_map]; exact hlt
  exact List.pairwise_iff_getElem.mp hn j i hj hi' hji (by simpa using hp)

/-- the round trip of one value needs the amount codec to round-trip at that value only (the
binary64 codec does not round-trip NaN and the infinities, `C17F64`) -/
theorem de_ser_of {A : Type} (kind : QtyKind) (units : List UnitDef) (hn : (units.map (·.ident)).Nodup)
    (hk : kind = .single → units.length = 1) (serAmt : A → JL) (deAmt : JL → Option A) (a : A)
    (hrt : deAmt (serAmt a) = some a) (i : Nat) (u : UnitDef) (hi : units[i]? = some u) :
    deQty kind units deAmt (serQty kind (serAmt a) u) = some (a, i) := by
  have hu := de_ser_unit units hn i u hi
  cases kind with
  | single =>
    have hl := hk rfl
    have hi0 : i = 0 := by
      have := (List.getElem?_eq_some_iff.mp hi).1
      omega
    subst hi0
    simp [serQty, deQty, hrt]
  | noRef => simp [serQty, deQty, hrt, hu]
  | withRef => simp [serQty, deQty, hrt, hu]

/-- serialising any value and deserialising the result gives back the identical unit and the
identical amount, for every amount codec that round-trips -/
theorem de_ser {A : Type} (kind : QtyKind) (units : List UnitDef) (hn : (units.map (·.ident)).Nodup)
    (hk : kind = .single → units.length = 1)
    (serAmt : A → JL) (deAmt : JL → Option A) (hrt : ∀ a, deAmt (serAmt a) = some a)
    (a : A) (i : Nat) (u : UnitDef) (hi : units[i]? = some u) :
    deQty kind units deAmt (serQty kind (serAmt a) u) = some (a, i) :=
  de_ser_of kind units hn hk serAmt deAmt a (hrt a) i u hi

/-- two values whose serialisations agree and both read back are the same value -/
theorem ser_injective_of {A : Type} (kind : QtyKind) (units : List UnitDef)
    (hn : (units.map (·.ident)).Nodup) (hk : kind = .single → units.length = 1)
    (serAmt : A → JL) (deAmt : JL → Option A) (a b : A) (hra : deAmt (serAmt a) = some a)
    (hrb : deAmt (serAmt b) = some b) (i j : Nat) (u v : UnitDef) (hi : units[i]? = some u)
    (hj : units[j]? = some v) (h : serQty kind (serAmt a) u = serQty kind (serAmt b) v) :
    a = b ∧ i = j := by
  have h1 := de_ser_of kind units hn hk serAmt deAmt a hra i u hi
  have h2 := de_ser_of kind units hn hk serAmt deAmt b hrb j v hj
  rw [h, h2] at h1
  simpa [eq_comm] using h1

/-- values that differ in unit or amount have different serialisations -/
theorem ser_injective {A : Type} (kind : QtyKind) (units : List UnitDef) (hn : (units.map (·.ident)).Nodup)
    (hk : kind = .single → units.length = 1)
    (serAmt : A → JL) (deAmt : JL → Option A) (hrt : ∀ a, deAmt (serAmt a) = some a)
    (a b : A) (i j : Nat) (u v : UnitDef) (hi : units[i]? = some u) (hj : units[j]? = some v)
    (h : serQty kind (serAmt a) u = serQty kind (serAmt b) v) : a = b ∧ i = j :=
  ser_injective_of kind units hn hk serAmt deAmt a b (hrt a) (hrt b) i j u v hi hj h

theorem decOfText_eq (t : Text) :
    decOfText t = scanWith (fun neg N p =>
      let c : ℤ := (N : ℕ)
      (⟨if neg then -c else c, p⟩ : Dec)) t := rfl

theorem decText_eq (d : Dec) : decText d = signText (decide (d.coeff < 0)) ++ decAbsText none d := by
  by_cases h : d.coeff < 0 <;> simp [decText, signText, h]

/-- `FromStr` reads the `Display` text of every `Decimal` back as the identical value -/
theorem decOfText_decText (d : Dec) : decOfText (decText d) = some d := by
  rw [decText_eq, decOfText_eq, (decAbsText_none_plain d).scan]
  obtain ⟨c, n⟩ := d
  simp only [decide_eq_true_eq]
  congr 2
  split <;> omega

-- `h` is not needed: `decOfText_decText`
set_option linter.unusedVariables false in
/-- decimal back-end: `decOfText_decText` (coefficient AND number of fractional digits come back)
under the property's hypothesis that the `Decimal` is well-formed -/
theorem dec_amount_roundtrip (d : Dec) (h : d.nfd ≤ 18) : decOfText (decText d) = some d :=
  decOfText_decText d

/-- non-vacuity: `{"amount":"-1.25","unit":"M"}` -/
example : render (serQty .withRef (.str (decText ⟨-125, 2⟩)) { ident := [77], name := [77], symbol := [109], pfx := none, scale := none, doc := none })
    = [123, 34, 97, 109, 111, 117, 110, 116, 34, 58, 34, 45, 49, 46, 50, 53, 34, 44, 34, 117, 110, 105, 116, 34, 58, 34, 77, 34, 125] := by
  decide +kernel

end Qty.C17
