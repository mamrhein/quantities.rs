import QtyModel.Props.C14
import QtyModel.TempRows
import QtyModel.Lemmas.Approx
import QtyModel.Lemmas.DecLaws
import QtyModel.Lemmas.Basic
/-
  C14 — "its conversions are mutually inverse and compose consistently", for what
  `ConversionTable::convert` COMPUTES (with rounding), not only for the exact formulas.

  * general part: for EVERY table and every arithmetic satisfying `Laws`, a chain of two
    table conversions realises the composed `Approx` expression; when the published
    constants are mutually inverse (resp. compose to a third row) the exact value of that
    expression is the input itself (resp. the exact value of the direct conversion).
  * concrete part: the regenerated temperature table in the decimal back-end, all six
    ordered pairs (resp. all six ordered triples) of distinct units, every decimal amount
    of magnitude ≤ 10¹², explicit bound.
-/
namespace Qty.C14

section General
variable {A : Type} (R : Arith A)

set_option linter.unusedVariables false in
/-- `conv_affine_sound` for an input amount that is itself only known up to an error:
if `q.amount` realises `xa`, one table conversion realises `xa·f + o`. -/
theorem conv_affine_sound_approx {M : ErrModel} (L : Laws R M) (rows : List (ConvRow A))
    (q : Q A Nat) (tgt : Nat) (h : q.unit ≠ tgt) (r : ConvRow A)
    (hfind : rows.find? (fun r => r.fromU == q.unit && r.toU == tgt) = some r)
    (xa f o : Approx) (hx : Realises R q.amount xa) (hxe : 0 ≤ xa.err)
    (hf : Realises R r.factor f) (ho : Realises R r.offset o) (hfe : 0 ≤ f.err) (hoe : 0 ≤ o.err)
    (hok : (Approx.add M (Approx.mul M xa f) o).ok = true) :
    ∃ res, tconv R rows q tgt = .ok (some res) ∧ res.unit = tgt ∧
      Realises R res.amount (Approx.add M (Approx.mul M xa f) o) :=
  tconv_sound R L h hfind hx hf ho hok

/-- error-propagated value of two chained table conversions of the exact amount `x`:
`(x·f₁ + o₁)·f₂ + o₂`, by definition `affine M (affine M (Approx.exact x) f1 o1) f2 o2` -/
def chain (M : ErrModel) (x : Rat) (f1 o1 f2 o2 : Approx) : Approx :=
  Approx.add M (Approx.mul M (Approx.add M (Approx.mul M (Approx.exact x) f1) o1) f2) o2

theorem chain_v (M : ErrModel) (x : Rat) (f1 o1 f2 o2 : Approx) :
    (chain M x f1 o1 f2 o2).v = x * (f1.v * f2.v) + (o1.v * f2.v + o2.v) := by
  show (x * f1.v + o1.v) * f2.v + o2.v = _
  ring

/-- one step of the calculus stays in range when the bound on the magnitude of everything it
computes does -/
theorem affine_ok {M : ErrModel} (W : M.WF) {a f o : Approx} {T : Rat}
    (ha : a.ok = true) (hf : f.ok = true) (ho : o.ok = true)
    (hae : 0 ≤ a.err) (hfe : 0 ≤ f.err) (hoe : 0 ≤ o.err)
    (hT : |a.v| * |f.v| + |o.v| + (affine M a f o).err ≤ T) (hs : M.safe T = true) :
    (affine M a f o).ok = true := by
  simp only [affine, Approx.add, Approx.mul, ratAbs_eq_abs, ha, hf, ho, Bool.and_eq_true,
    Bool.true_and, and_true, ← abs_mul] at hT ⊢
  set p := |a.v| * f.err + |f.v| * a.err + a.err * f.err
  have hp : 0 ≤ p := add_nonneg (add_nonneg (mul_nonneg (abs_nonneg _) hfe)
    (mul_nonneg (abs_nonneg _) hae)) (mul_nonneg hae hfe)
  have hE := W.E_nonneg (|a.v * f.v| + p)
  have hEa := W.Ea_nonneg (|a.v * f.v + o.v| + (p + M.E (|a.v * f.v| + p) + o.err))
  have hs' := abs_add_le (a.v * f.v) o.v
  have h3 := abs_nonneg (a.v * f.v)
  have h4 := abs_nonneg o.v
  have hpE := add_nonneg hp hE
  -- the product: tested once by `Approx.mul`, once as the left operand of `Approx.add`
  have hm : |a.v * f.v| + p + M.E (|a.v * f.v| + p) ≤ T := by linarith only [hT, h4, hoe, hEa]
  exact ⟨⟨⟨W.safe_of_le (add_nonneg (add_nonneg h3 hp) hE) hm hs,
    W.safe_of_le (add_nonneg h3 hpE) (add_assoc _ p _ ▸ hm) hs⟩,
    W.safe_of_le (add_nonneg h4 hoe) (by linarith only [hT, h3, hp, hE, hEa]) hs⟩,
    W.safe_of_le (add_nonneg (add_nonneg (abs_nonneg _) (add_nonneg hpE hoe)) hEa)
      (by linarith only [hT, hs']) hs⟩

/-- two chained table conversions `u → v → w` (`w = u` allowed) of a realised amount succeed and
realise the composed expression -/
theorem conv_chain_sound {M : ErrModel} (L : Laws R M) {rows : List (ConvRow A)} {q : Q A Nat}
    {v w : Nat} {r1 r2 : ConvRow A} (huv : q.unit ≠ v) (hvw : v ≠ w)
    (hfind1 : rows.find? (fun r => r.fromU == q.unit && r.toU == v) = some r1)
    (hfind2 : rows.find? (fun r => r.fromU == v && r.toU == w) = some r2)
    {xa f1 o1 f2 o2 : Approx} (hx : Realises R q.amount xa)
    (hf1 : Realises R r1.factor f1) (ho1 : Realises R r1.offset o1)
    (hf2 : Realises R r2.factor f2) (ho2 : Realises R r2.offset o2)
    (hok : (affine M (affine M xa f1 o1) f2 o2).ok = true) :
    ∃ mid res, tconv R rows q v = .ok (some mid) ∧ mid.unit = v ∧
      tconv R rows mid w = .ok (some res) ∧ res.unit = w ∧
      Realises R res.amount (affine M (affine M xa f1 o1) f2 o2) := by
  obtain ⟨mid, hc1, rfl, hm1⟩ :=
    tconv_sound R L huv hfind1 hx hf1 ho1 (mul_ok_left _ _ (add_ok_left _ _ hok))
  obtain ⟨res, hc2, hu2, hm2⟩ := tconv_sound R L hvw hfind2 hm1 hf2 ho2 hok
  exact ⟨mid, res, hc1, rfl, hc2, hu2, hm2⟩

set_option linter.unusedVariables false in
/-- ROUND TRIP, any table, any lawful arithmetic: if the rows found for `(u, v)` and `(v, u)`
realise constants that are mutually inverse (`f₁·f₂ = 1`, `o₁·f₂ + o₂ = 0`), converting
`x·u` to `v` and the result back to `u` succeeds, and the final amount realises an
expression whose exact value is `x`, i.e. it is within `(chain M x f1 o1 f2 o2).err` of `x`. -/
theorem conv_roundtrip_sound {M : ErrModel} (L : Laws R M) (rows : List (ConvRow A))
    (q : Q A Nat) (v : Nat) (huv : q.unit ≠ v) (r1 r2 : ConvRow A)
    (hfind1 : rows.find? (fun r => r.fromU == q.unit && r.toU == v) = some r1)
    (hfind2 : rows.find? (fun r => r.fromU == v && r.toU == q.unit) = some r2)
    (x : Rat) (f1 o1 f2 o2 : Approx) (hx : R.val q.amount = some x)
    (hf1 : Realises R r1.factor f1) (ho1 : Realises R r1.offset o1)
    (hf2 : Realises R r2.factor f2) (ho2 : Realises R r2.offset o2)
    (hf1e : 0 ≤ f1.err) (ho1e : 0 ≤ o1.err) (hf2e : 0 ≤ f2.err) (ho2e : 0 ≤ o2.err)
    (hF : f1.v * f2.v = 1) (hO : o1.v * f2.v + o2.v = 0)
    (hok : (chain M x f1 o1 f2 o2).ok = true) :
    ∃ mid back, tconv R rows q v = .ok (some mid) ∧ mid.unit = v ∧
      tconv R rows mid q.unit = .ok (some back) ∧ back.unit = q.unit ∧
      Realises R back.amount (chain M x f1 o1 f2 o2) ∧
      (chain M x f1 o1 f2 o2).v = x ∧
      ∃ z, R.val back.amount = some z ∧ |z - x| ≤ (chain M x f1 o1 f2 o2).err := by
  obtain ⟨mid, back, h1, h2, h3, h4, z, hz, hze⟩ := conv_chain_sound R L huv huv.symm hfind1 hfind2
    (exact_sound R hx) hf1 ho1 hf2 ho2 hok
  have hv : (chain M x f1 o1 f2 o2).v = x := by rw [chain_v, hF, hO, mul_one, add_zero]
  exact ⟨mid, back, h1, h2, h3, h4, ⟨z, hz, hze⟩, hv, z, hz,
    (congrArg (|z - ·|) hv.symm).trans_le hze⟩

set_option linter.unusedVariables false in
/-- COMPOSITION, any table, any lawful arithmetic: if the rows found for `(u, v)`, `(v, w)`
and `(u, w)` realise constants with `f₁·f₂ = f₃`, `o₁·f₂ + o₂ = o₃`, then converting
`x·u` to `v` and on to `w`, and converting `x·u` directly to `w`, both succeed and realise
expressions with the SAME exact value; the two computed amounts differ
by at most the sum of the two propagated bounds. -/
theorem conv_compose_sound {M : ErrModel} (L : Laws R M) (rows : List (ConvRow A))
    (q : Q A Nat) (v w : Nat) (huv : q.unit ≠ v) (hvw : v ≠ w) (huw : q.unit ≠ w)
    (r1 r2 r3 : ConvRow A)
    (hfind1 : rows.find? (fun r => r.fromU == q.unit && r.toU == v) = some r1)
    (hfind2 : rows.find? (fun r => r.fromU == v && r.toU == w) = some r2)
    (hfind3 : rows.find? (fun r => r.fromU == q.unit && r.toU == w) = some r3)
    (x : Rat) (f1 o1 f2 o2 f3 o3 : Approx) (hx : R.val q.amount = some x)
    (hf1 : Realises R r1.factor f1) (ho1 : Realises R r1.offset o1)
    (hf2 : Realises R r2.factor f2) (ho2 : Realises R r2.offset o2)
    (hf3 : Realises R r3.factor f3) (ho3 : Realises R r3.offset o3)
    (hf1e : 0 ≤ f1.err) (ho1e : 0 ≤ o1.err) (hf2e : 0 ≤ f2.err) (ho2e : 0 ≤ o2.err)
    (hf3e : 0 ≤ f3.err) (ho3e : 0 ≤ o3.err)
    (hF : f1.v * f2.v = f3.v) (hO : o1.v * f2.v + o2.v = o3.v)
    (hok12 : (chain M x f1 o1 f2 o2).ok = true)
    (hok3 : (affine M (Approx.exact x) f3 o3).ok = true) :
    ∃ mid two direct, tconv R rows q v = .ok (some mid) ∧ mid.unit = v ∧
      tconv R rows mid w = .ok (some two) ∧ two.unit = w ∧
      tconv R rows q w = .ok (some direct) ∧ direct.unit = w ∧
      Realises R two.amount (chain M x f1 o1 f2 o2) ∧
      Realises R direct.amount (affine M (Approx.exact x) f3 o3) ∧
      (chain M x f1 o1 f2 o2).v = (affine M (Approx.exact x) f3 o3).v ∧
      ∃ z12 z3, R.val two.amount = some z12 ∧ R.val direct.amount = some z3 ∧
        |z12 - z3| ≤ (chain M x f1 o1 f2 o2).err + (affine M (Approx.exact x) f3 o3).err := by
  obtain ⟨mid, two, h1, h2, h3, h4, z12, hz12, he12⟩ := conv_chain_sound R L huv hvw hfind1 hfind2
    (exact_sound R hx) hf1 ho1 hf2 ho2 hok12
  obtain ⟨direct, h6, h7, z3, hz3, he3⟩ :=
    tconv_sound R L huw hfind3 (exact_sound R hx) hf3 ho3 hok3
  have hv : (chain M x f1 o1 f2 o2).v = (affine M (Approx.exact x) f3 o3).v := by
    rw [chain_v, hF, hO]
    rfl
  refine ⟨mid, two, direct, h1, h2, h3, h4, h6, h7, ⟨z12, hz12, he12⟩, ⟨z3, hz3, he3⟩, hv,
    z12, z3, hz12, hz3, (abs_sub_le z12 _ z3).trans (add_le_add (hv ▸ he12) ?_)⟩
  rwa [abs_sub_comm]

end General

/-- a published constant known through an 18-digit literal: value `F`, error ≤ ½·10⁻¹⁸ -/
def lit18 (F : Rat) : Approx := ⟨F, 1 / (2 * 10 ^ 18), true⟩

theorem lit18_ok (F : Rat) : (lit18 F).ok = true := rfl

theorem affine_dec_err (a : Approx) (F O : Rat) :
    (affine ErrModel.dec a (lit18 F) (lit18 O)).err =
      (|a.v| + a.err + 2) / (2 * 10 ^ 18) + |F| * a.err := by
  simp only [affine, Approx.add, Approx.mul, lit18, ratAbs_eq_abs, Dec.dec_E, Dec.dec_Ea]
  ring

/-- one conversion step `a·F + O` in the decimal model, `F` and `O` known through 18-digit
literals: bounds `(X, e)` on value and error of `a` become `(X·cF + cO, (X + e + 2)·½·10⁻¹⁸ + cF·e)`,
and the step stays in range when their sum does -/
theorem affine_dec_step {a : Approx} {F O X e cF cO : Rat} (ha : a.ok = true)
    (hv : |a.v| ≤ X) (he0 : 0 ≤ a.err) (he : a.err ≤ e) (hF : |F| ≤ cF) (hO : |O| ≤ cO) :
    |(affine ErrModel.dec a (lit18 F) (lit18 O)).v| ≤ X * cF + cO ∧
    0 ≤ (affine ErrModel.dec a (lit18 F) (lit18 O)).err ∧
    (affine ErrModel.dec a (lit18 F) (lit18 O)).err ≤ (X + e + 2) / (2 * 10 ^ 18) + cF * e ∧
    (X * cF + cO + ((X + e + 2) / (2 * 10 ^ 18) + cF * e) ≤ 10 ^ 19 →
      (affine ErrModel.dec a (lit18 F) (lit18 O)).ok = true) := by
  have hη := Dec.eta_nonneg
  have hm : |a.v| * |F| ≤ X * cF := mul_le_mul hv hF (abs_nonneg _) ((abs_nonneg _).trans hv)
  have hle : (affine ErrModel.dec a (lit18 F) (lit18 O)).err ≤
      (X + e + 2) / (2 * 10 ^ 18) + cF * e := by
    rw [affine_dec_err]
    exact add_le_add (div_le_div_of_nonneg_right (add_le_add (add_le_add hv he) le_rfl)
      (by norm_num)) (mul_le_mul hF he he0 ((abs_nonneg _).trans hF))
  refine ⟨(abs_add_le _ _).trans (add_le_add (abs_mul a.v F ▸ hm) hO), ?_, hle, fun h =>
    affine_ok Dec.errModel_wf ha rfl rfl he0 hη hη ((add_le_add (add_le_add hm hO) hle).trans h)
      ((Dec.safe_iff _).mpr (abs_of_nonneg (by norm_num)).le)⟩
  rw [affine_dec_err]
  exact add_nonneg (div_nonneg (add_nonneg (add_nonneg (abs_nonneg _) he0) zero_le_two)
    (by norm_num)) (mul_nonneg (abs_nonneg _) he0)

/-- two chained steps in the decimal back-end, for `|x| ≤ 10¹²` and constants of the size of the
temperature table's: in range, error at most `(4·|x| + 500)·½·10⁻¹⁸` -/
theorem temp_chain_dec {x F1 O1 F2 O2 : Rat} (hx : |x| ≤ 10 ^ 12)
    (hF1 : |F1| ≤ 9 / 5) (hO1 : |O1| ≤ 460) (hF2 : |F2| ≤ 9 / 5) (hO2 : |O2| ≤ 460) :
    (chain ErrModel.dec x (lit18 F1) (lit18 O1) (lit18 F2) (lit18 O2)).ok = true ∧
    (chain ErrModel.dec x (lit18 F1) (lit18 O1) (lit18 F2) (lit18 O2)).err ≤
      (4 * |x| + 500) / (2 * 10 ^ 18) := by
  obtain ⟨hv1, he1, hle1, hok1⟩ :=
    affine_dec_step (a := Approx.exact x) rfl (le_refl |x|) (le_refl 0) (le_refl 0) hF1 hO1
  obtain ⟨-, -, hle2, hok2⟩ :=
    affine_dec_step (hok1 (by linarith only [hx])) hv1 he1 hle1 hF2 hO2
  exact ⟨hok2 (by linarith only [hx]), hle2.trans (by linarith only [abs_nonneg x])⟩

/-! `tempRows` (`QtyModel/TempRows.lean`) is the very definition the driver executes for `temp rows` /
`temp conv` (constants resolved to unit indices of the `Temperature` table, literals through the
back-end's `Amnt!`); the table is built as `buildWorld` builds it (`MacroFront.expand` of the
catalogue item, then `RTable.ofDef`). -/

def tempRowsDec : List (ConvRow Dec) := ((tempTable Dec.arith).bind (tempRows Dec.arith)).getD []
def tempUnitName (u : Nat) : Text :=
  ((tempTable Dec.arith).bind (fun T => T.units[u]?.map (·.name))).getD []

/-- what that evaluates to: (from, to, factor coeff, factor digits, offset coeff, offset digits) -/
theorem tempRowsDec_eq :
    tempRowsDec.map (fun r => (r.fromU, r.toU, r.factor.coeff, r.factor.nfd, r.offset.coeff, r.offset.nfd)) =
    [(2, 0, 1, 0, -27315, 2),
     (0, 2, 1, 0, 27315, 2),
     (2, 1, 18, 1, -45967, 2),
     (1, 2, 555555555555555556, 18, 255372222222222222222, 18),
     (0, 1, 18, 1, 32, 0),
     (1, 0, 555555555555555556, 18, -17777777777777777778, 18)] := by
  decide +kernel

/-- unit indices: 0 = °C, 1 = °F, 2 = K -/
theorem tempUnitName_eq : tempUnitName 0 = Spec.Temp.celsius ∧
    tempUnitName 1 = Spec.Temp.fahrenheit ∧ tempUnitName 2 = Spec.Temp.kelvin := by
  decide +kernel

/-- decidable facts about one row: amounts well-formed, factor/offset within ½·10⁻¹⁸ of the exact
constants `F`, `O`, which are at most the largest of the table (factor 9/5 for °C → °F and
K → °F, offset 459.67 for K → °F) -/
def rowOk (r : ConvRow Dec) (F O : Rat) : Bool :=
  r.factor.wf && r.offset.wf &&
  decide (ratAbs (r.factor.toRat - F) ≤ 1 / (2 * pow10 18)) &&
  decide (ratAbs (r.offset.toRat - O) ≤ 1 / (2 * pow10 18)) &&
  decide (ratAbs F ≤ 9 / 5) && decide (ratAbs O ≤ 460)

/-- the FIRST row for `(u, v)` exists and matches the exact formula for the units' names -/
def pairOk (u v : Nat) : Bool :=
  match tempRowsDec.find? (fun r => r.fromU == u && r.toU == v),
        Spec.Temp.formula (tempUnitName u) (tempUnitName v) with
  | some r, some (F, O) => rowOk r F O
  | _, _ => false

theorem pairs_ok : ∀ u < 3, ∀ v < 3, u ≠ v → pairOk u v = true := by
  decide +kernel

theorem pair_facts {u v : Nat} (hu : u < 3) (hv : v < 3) (huv : u ≠ v) :
    ∃ r F O, tempRowsDec.find? (fun r => r.fromU == u && r.toU == v) = some r ∧
      Spec.Temp.formula (tempUnitName u) (tempUnitName v) = some (F, O) ∧
      Realises Dec.arith r.factor (lit18 F) ∧ Realises Dec.arith r.offset (lit18 O) ∧
      |F| ≤ 9 / 5 ∧ |O| ≤ 460 := by
  have h := pairs_ok u hu v hv huv
  unfold pairOk at h
  split at h
  · next r F O hr hf =>
    refine ⟨r, F, O, hr, hf, ?_⟩
    simp only [rowOk, Bool.and_eq_true, decide_eq_true_eq, ratAbs_eq_abs, pow10_eq] at h
    obtain ⟨⟨⟨⟨⟨w1, w2⟩, e1⟩, e2⟩, b1⟩, b2⟩ := h
    exact ⟨⟨_, Dec.val_of_wf w1, e1⟩, ⟨_, Dec.val_of_wf w2, e2⟩, b1, b2⟩
  · cases h

/-- ROUND TRIP on the regenerated temperature table, decimal back-end: for every ordered pair
of distinct units (0 = °C, 1 = °F, 2 = K) and every decimal amount `a` of magnitude ≤ 10¹²,
converting there and back succeeds and returns an amount within `(2·|x| + 250)·10⁻¹⁸` of `x`. -/
theorem temp_roundtrip_dec (u v : Nat) (hu : u < 3) (hv : v < 3) (huv : u ≠ v)
    (a : Dec) (x : Rat) (hx : Dec.arith.val a = some x) (hxb : |x| ≤ 10 ^ 12) :
    ∃ mid back z, tconv Dec.arith tempRowsDec ⟨a, u⟩ v = .ok (some mid) ∧ mid.unit = v ∧
      tconv Dec.arith tempRowsDec mid u = .ok (some back) ∧ back.unit = u ∧
      Dec.arith.val back.amount = some z ∧ |z - x| ≤ (4 * |x| + 500) / (2 * 10 ^ 18) := by
  obtain ⟨r1, F1, O1, hr1, hfo1, hf1, ho1, hF1, hO1⟩ := pair_facts hu hv huv
  obtain ⟨r2, F2, O2, hr2, hfo2, hf2, ho2, hF2, hO2⟩ := pair_facts hv hu huv.symm
  obtain ⟨hF, hO⟩ := formula_inverse _ _ F1 O1 F2 O2 hfo1 hfo2
  obtain ⟨hok, hbd⟩ := temp_chain_dec hxb hF1 hO1 hF2 hO2
  obtain ⟨mid, back, h1, h2, h3, h4, -, -, z, hz, hze⟩ :=
    conv_roundtrip_sound Dec.arith Dec.laws tempRowsDec ⟨a, u⟩ v huv r1 r2 hr1 hr2 x
      (lit18 F1) (lit18 O1) (lit18 F2) (lit18 O2) hx hf1 ho1 hf2 ho2
      hf1.err_nonneg ho1.err_nonneg hf2.err_nonneg ho2.err_nonneg hF hO hok
  exact ⟨mid, back, z, h1, h2, h3, h4, hz, hze.trans hbd⟩

/-- COMPOSITION on the regenerated temperature table, decimal back-end: for every ordered
triple of distinct units and every decimal amount of magnitude ≤ 10¹², converting `u → v → w`
and converting `u → w` directly both succeed and the two amounts differ by at most
`(2.5·|x| + 251)·10⁻¹⁸`. -/
theorem temp_compose_dec (u v w : Nat) (hu : u < 3) (hv : v < 3) (hw : w < 3)
    (huv : u ≠ v) (hvw : v ≠ w) (huw : u ≠ w)
    (a : Dec) (x : Rat) (hx : Dec.arith.val a = some x) (hxb : |x| ≤ 10 ^ 12) :
    ∃ mid two direct z12 z3, tconv Dec.arith tempRowsDec ⟨a, u⟩ v = .ok (some mid) ∧ mid.unit = v ∧
      tconv Dec.arith tempRowsDec mid w = .ok (some two) ∧ two.unit = w ∧
      tconv Dec.arith tempRowsDec ⟨a, u⟩ w = .ok (some direct) ∧ direct.unit = w ∧
      Dec.arith.val two.amount = some z12 ∧ Dec.arith.val direct.amount = some z3 ∧
      |z12 - z3| ≤ (5 * |x| + 502) / (2 * 10 ^ 18) := by
  obtain ⟨r1, F1, O1, hr1, hfo1, hf1, ho1, hF1, hO1⟩ := pair_facts hu hv huv
  obtain ⟨r2, F2, O2, hr2, hfo2, hf2, ho2, hF2, hO2⟩ := pair_facts hv hw hvw
  obtain ⟨r3, F3, O3, hr3, hfo3, hf3, ho3, hF3, hO3⟩ := pair_facts hu hw huw
  obtain ⟨hF, hO⟩ := formula_compose _ _ _ F1 O1 F2 O2 F3 O3 hfo1 hfo2 hfo3
  obtain ⟨hok12, hbd12⟩ := temp_chain_dec hxb hF1 hO1 hF2 hO2
  obtain ⟨-, -, hbd3, hok3⟩ :=
    affine_dec_step (a := Approx.exact x) rfl (le_refl |x|) (le_refl 0) (le_refl 0) hF3 hO3
  obtain ⟨mid, two, direct, h1, h2, h3, h4, h5, h6, -, -, -, z12, z3, hz12, hz3, hze⟩ :=
    conv_compose_sound Dec.arith Dec.laws tempRowsDec ⟨a, u⟩ v w huv hvw huw r1 r2 r3
      hr1 hr2 hr3 x (lit18 F1) (lit18 O1) (lit18 F2) (lit18 O2) (lit18 F3) (lit18 O3) hx
      hf1 ho1 hf2 ho2 hf3 ho3 hf1.err_nonneg ho1.err_nonneg hf2.err_nonneg ho2.err_nonneg
      hf3.err_nonneg ho3.err_nonneg hF hO hok12 (hok3 (by linarith only [hxb]))
  exact ⟨mid, two, direct, z12, z3, h1, h2, h3, h4, h5, h6, hz12, hz3,
    hze.trans (by linarith only [hbd12, hbd3])⟩

/-- 20 °C → 68.0 °F → 20.000000000000000030 °C on the regenerated rows: the round trip is
NOT exact (0.555555555555555556 · 1.8 ≠ 1), the error 3·10⁻¹⁷ is within the proved bound
(4·20 + 500)/(2·10¹⁸) = 2.9·10⁻¹⁶ -/
example : tconv Dec.arith tempRowsDec ⟨⟨20, 0⟩, 0⟩ 1 = .ok (some ⟨⟨680, 1⟩, 1⟩) ∧
    tconv Dec.arith tempRowsDec ⟨⟨680, 1⟩, 1⟩ 0 = .ok (some ⟨⟨20000000000000000030, 18⟩, 0⟩) := by
  decide +kernel

/-- 20 °C → °F → K gives 293.150000000000000030 K, the direct row 293.15 K -/
example : tconv Dec.arith tempRowsDec ⟨⟨680, 1⟩, 1⟩ 2 = .ok (some ⟨⟨293150000000000000030, 18⟩, 2⟩) ∧
    tconv Dec.arith tempRowsDec ⟨⟨20, 0⟩, 0⟩ 2 = .ok (some ⟨⟨29315, 2⟩, 2⟩) := by
  decide +kernel

/-- the hypotheses of `temp_roundtrip_dec` are satisfiable, and its conclusion is tight enough
to be informative: instantiated at 20 °C ↔ °F it bounds the observed error -/
example : ∃ mid back z, tconv Dec.arith tempRowsDec ⟨⟨20, 0⟩, 0⟩ 1 = .ok (some mid) ∧ mid.unit = 1 ∧
    tconv Dec.arith tempRowsDec mid 0 = .ok (some back) ∧ back.unit = 0 ∧
    Dec.arith.val back.amount = some z ∧ |z - 20| ≤ (4 * |(20 : Rat)| + 500) / (2 * 10 ^ 18) :=
  temp_roundtrip_dec 0 1 (by decide) (by decide) (by decide) ⟨20, 0⟩ 20
    (by rw [Dec.val_of_wf (by decide)]; simp [Dec.toRat_eq]) (by norm_num)

/-- a hand-written two-row table whose constants are exactly inverse (K ↔ °C): the general
theorem's premisses hold with zero-error constants -/
example : tconv Dec.arith [⟨0, 1, ⟨1, 0⟩, ⟨-27315, 2⟩⟩, ⟨1, 0, ⟨1, 0⟩, ⟨27315, 2⟩⟩] ⟨⟨300, 0⟩, 0⟩ 1
      = .ok (some ⟨⟨2685, 2⟩, 1⟩) ∧
    tconv Dec.arith [⟨0, 1, ⟨1, 0⟩, ⟨-27315, 2⟩⟩, ⟨1, 0, ⟨1, 0⟩, ⟨27315, 2⟩⟩] ⟨⟨2685, 2⟩, 1⟩ 0
      = .ok (some ⟨⟨30000, 2⟩, 0⟩) := by
  decide +kernel

end Qty.C14
