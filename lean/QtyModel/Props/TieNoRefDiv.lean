import QtyModel.Ops
import QtyModel.Generated.Algos
/- Tie between code and model: the definitions re-emitted from the Rust source (`Generated/Algos.lean`) ARE
   the model's, for `Quantity::div`, used by types without reference unit. -/
namespace Qty.AlgoTie
open Qty.Gen.Algos

variable {A U : Type} [DecidableEq U]
variable (R : Arith A) (T : QT A U)

theorem nr_div_eq (a b : Q A U) : Quantity.div R T a b = nrDiv R a b := rfl

end Qty.AlgoTie
