import QtyModel.Lemmas.ListFind
import QtyModel.Lemmas.MacroFront
import QtyModel.Lemmas.DecLaws
/-
  C11 — Generated types reflect their declaration in any order or literal form.
  (partial: `syn` and rustc are modelled)

  About the token-level model of the macro front end (`MacroFront`): which raw definitions
  expand, what the expansion contains, and that permuting the unit attributes only permutes the
  units.
-/
namespace Qty.C11
open Qty.MacroFront

def unitAttrs (it : RawItem) : List RawAttr := it.attrs.filter (fun a => a.kind == .unit)
def refAttrs (it : RawItem) : List RawAttr := it.attrs.filter (fun a => a.kind == .refUnit)

def argsOk (args : List Tok) : Bool :=
  match parseArgs args with
  | .ok _ => true
  | .error _ => false

/-- well-formedness of a raw definition, as a decidable predicate on its tokens:
a field-less, non-generic struct; no argument or `A * B` / `A / B`; at least one `#[unit]`;
at most one `#[ref_unit]`; with a reference unit: it has no scale and every unit has one;
without: no unit has a scale or a prefix -/
def WellFormedRaw (it : RawItem) : Bool :=
  it.isStruct && !it.hasGenerics && !it.hasFields && argsOk it.args && !(unitAttrs it).isEmpty &&
  (match refAttrs it with
   | [] => (unitAttrs it).all (fun a => match parseUnit a.toks with
       | some u => u.scale.isNone && u.pfx.isNone
       | none => false)
   | [r] => (match parseUnit r.toks with
       | some rd => rd.scale.isNone
       | none => false) &&
       (unitAttrs it).all (fun a => match parseUnit a.toks with
         | some u => u.scale.isSome
         | none => false)
   | _ => false)

/-- with a reference unit every `#[unit]` attribute of a well-formed definition carries a scale -/
theorem unit_scale_of_wf {it : RawItem} (hwf : WellFormedRaw it = true) {r : RawAttr}
    (hr : refAttrs it = [r]) {a : RawAttr} (ha : a ∈ unitAttrs it) {u : UnitDef}
    (hp : parseUnit a.toks = some u) : u.scale.isSome = true := by
  unfold WellFormedRaw at hwf
  rw [hr] at hwf
  simp only [Bool.and_eq_true] at hwf
  have := List.all_eq_true.mp hwf.2.2 a ha
  rwa [hp] at this

theorem expand_ok_iff_declared (it : RawItem) :
    (∃ d, expand it = .ok d) ↔ (∃ dc, declared it = .ok dc) ∧ argsOk it.args = true := by
  rw [expand_eq]; unfold argsOk
  cases declared it with
  | error e => simp
  | ok dc => cases parseArgs it.args <;> simp

/-- outcome of `declared` once it has reached the scan of the `#[unit]` attributes in mode `w` -/
def Scanned (it : RawItem) (w : Bool) (mk : List UnitDef → Declared) : Prop :=
  if (unitAttrs it).all (unitAttrOk w) = true then
    declared it = .ok (mk ((unitAttrs it).filterMap fun a => parseUnit a.toks)) ∧
      ((unitAttrs it).filterMap fun a => parseUnit a.toks).length = (unitAttrs it).length
  else ∃ j b msg, declared it = .error ⟨.attr j, msg⟩ ∧ it.attrs[j]? = some b ∧ b.kind = .unit

theorem scanned_of_eq (it : RawItem) (w : Bool) (mk : List UnitDef → Declared)
    (hd : declared it = (parseUnits w (attrsIx .unit it)).map mk) : Scanned it w mk := by
  unfold Scanned
  have := parseUnits_spec w (attrsIx .unit it)
  rw [attrsIx_map] at this
  rcases this with ⟨h1, h2, h3⟩ | ⟨p, hp, hbad, msg, e⟩
  · rw [unitAttrs, if_pos h1]; exact ⟨by rw [hd, h2]; rfl, h3⟩
  · have hm : p.2 ∈ unitAttrs it := by rw [unitAttrs, ← attrsIx_map]; exact List.mem_map_of_mem hp
    rw [if_neg fun hc => by simp [List.all_eq_true.mp hc _ hm] at hbad]
    exact ⟨p.1, p.2, msg, by rw [hd, e]; rfl, (mem_attrsIx _ it p hp).1, (mem_attrsIx _ it p hp).2⟩

theorem Scanned.error_of_bad {it : RawItem} {w : Bool} {mk : List UnitDef → Declared}
    (h : Scanned it w mk) {a : RawAttr} (ha : a ∈ unitAttrs it) (hbad : unitAttrOk w a = false) :
    ∃ j b msg, declared it = .error ⟨.attr j, msg⟩ ∧ it.attrs[j]? = some b ∧ b.kind = .unit := by
  rw [Scanned, if_neg fun hc => by simp [List.all_eq_true.mp hc a ha] at hbad] at h
  exact h

/-- the checks of the item itself come first -/
theorem declared_item (it : RawItem)
    (h : it.isStruct = false ∨ it.hasGenerics = true ∨ it.hasFields = true) :
    ∃ msg, declared it = .error ⟨.item, msg⟩ := by
  unfold declared
  cases hs : it.isStruct
  · exact ⟨_, rfl⟩
  · cases hg : it.hasGenerics
    · cases hf : it.hasFields
      · simp [hs, hg, hf] at h
      · exact ⟨_, rfl⟩
    · exact ⟨_, rfl⟩

/-- `declared` on a field-less, non-generic struct, in terms of the plain attribute lists: the
checks in the order in which they are made, each error with its site -/
theorem declared_spec (it : RawItem) (hs : it.isStruct = true) (hg : it.hasGenerics = false)
    (hf : it.hasFields = false) :
    if 2 ≤ (refAttrs it).length then ∃ j a msg, it.attrs[j]? = some a ∧ a.kind = .refUnit ∧
        declared it = .error ⟨.attr j, msg⟩
    else if (unitAttrs it).isEmpty then ∃ msg, declared it = .error ⟨.callSite, msg⟩
    else match refAttrs it with
      | [] => Scanned it false (⟨none, ·⟩)
      | r :: _ => ∃ j, it.attrs[j]? = some r ∧
        match parseUnit r.toks with
        | none => ∃ msg, declared it = .error ⟨.attr j, msg⟩
        | some rd =>
          if rd.scale.isSome then ∃ msg, declared it = .error ⟨.attr j, msg⟩
          else Scanned it true
            (fun us => ⟨some rd.ident, { rd with scale := some litOne } :: us⟩) := by
  have hd := declared.eq_1 it
  simp only [hs, hg, hf, Bool.not_true, Bool.false_eq_true, if_false] at hd
  have hmem := mem_attrsIx .refUnit it
  have hu : (unitAttrs it).isEmpty = (attrsIx .unit it).isEmpty := by
    rw [unitAttrs, ← attrsIx_map]; cases attrsIx .unit it <;> rfl
  rw [refAttrs, ← attrsIx_map, hu]
  unfold attrsIx at hmem ⊢
  generalize (enumFrom 0 it.attrs).filter (fun p => p.2.kind == AttrKind.refUnit) = refs at hd hmem
  match refs with
  | _ :: (j, a) :: _ =>
    exact (if_pos (by simp)).mpr
      ⟨j, a, _, (hmem _ (.tail _ (.head _))).1, (hmem _ (.tail _ (.head _))).2, hd⟩
  | [] =>
    simp only [List.map_nil] at hd ⊢
    rw [if_neg (by simp)]
    split
    · next h => exact ⟨_, hd.trans (if_pos h)⟩
    · next h =>
      exact scanned_of_eq it _ _ (by unfold attrsIx; rw [hd, if_neg h]; cases parseUnits false _ <;> rfl)
  | [(j, r)] =>
    simp only [List.map_cons, List.map_nil] at hd ⊢
    rw [if_neg (by simp)]
    split
    · next h => exact ⟨_, hd.trans (if_pos h)⟩
    · next h =>
      refine ⟨j, (hmem _ (.head _)).1, ?_⟩
      rw [if_neg h] at hd
      cases hp : parseUnit r.toks with
      | none => rw [hp] at hd; exact ⟨_, hd⟩
      | some rd =>
        rw [hp] at hd
        dsimp only at hd ⊢
        split
        · next h' => exact ⟨_, hd.trans (if_pos h')⟩
        · next h' =>
          exact scanned_of_eq it _ _
            (by unfold attrsIx; rw [hd, if_neg h']; cases parseUnits true _ <;> rfl)

/-- what `declared` returns for a well-formed definition: the reference unit, given the literal
`1.0`, followed by the `#[unit]` attributes in source order -/
def DeclaredAs (it : RawItem) (dc : Declared) : Prop :=
  it.isStruct = true ∧ it.hasGenerics = false ∧ it.hasFields = false ∧ unitAttrs it ≠ [] ∧
  ∃ us, us = (unitAttrs it).filterMap (fun a => parseUnit a.toks) ∧
    us.length = (unitAttrs it).length ∧
    ((refAttrs it = [] ∧ dc = { refIdent := none, units := us }) ∨
     (∃ r rd, refAttrs it = [r] ∧ parseUnit r.toks = some rd ∧ rd.scale = none ∧
        dc = { refIdent := some rd.ident, units := { rd with scale := some litOne } :: us }))

/-- `declared` does not look at the arguments of `#[quantity]` -/
theorem declared_args (it : RawItem) (args : List Tok) :
    declared { it with args := args } = declared it := rfl

/-- for acceptable arguments (which `WellFormedRaw` contains and `declared` ignores), `declared`
succeeds exactly on the well-formed definitions -/
theorem declared_wf (it : RawItem) (ha : argsOk it.args = true) :
    if WellFormedRaw it then ∃ dc, declared it = .ok dc ∧ DeclaredAs it dc
    else ∃ e, declared it = .error e := by
  unfold WellFormedRaw DeclaredAs
  by_cases hflags : it.isStruct = false ∨ it.hasGenerics = true ∨ it.hasFields = true
  · obtain ⟨msg, e⟩ := declared_item it hflags
    rw [if_neg (by rcases hflags with h | h | h <;> simp [h])]
    exact ⟨_, e⟩
  simp only [not_or, Bool.not_eq_false, Bool.not_eq_true] at hflags
  obtain ⟨hs, hg, hf⟩ := hflags
  have hd := declared_spec it hs hg hf
  simp only [hs, hg, hf, ha, Bool.not_false, Bool.true_and, true_and]
  -- eliminates `Scanned`; the two `all` conditions of `WellFormedRaw` are `unitAttrOk false` /
  -- `unitAttrOk true` unfolded, which `exact scan` sees through
  have scan : ∀ {w : Bool} {mk : List UnitDef → Declared} (S : Declared → Prop), Scanned it w mk →
      (∀ us, us = (unitAttrs it).filterMap (fun a => parseUnit a.toks) →
        us.length = (unitAttrs it).length → S (mk us)) →
      if (unitAttrs it).all (unitAttrOk w) = true then ∃ dc, declared it = .ok dc ∧ S dc
      else ∃ e, declared it = .error e := by
    intro w mk S h hS
    unfold Scanned at h
    split at h
    · next h1 => rw [if_pos h1]; exact ⟨_, h.1, hS _ rfl h.2⟩
    · next h1 => rw [if_neg h1]; obtain ⟨j, b, msg, e, -, -⟩ := h; exact ⟨_, e⟩
  by_cases h2 : 2 ≤ (refAttrs it).length
  · obtain ⟨j, a, msg, -, -, e⟩ := (if_pos h2).mp hd
    match hr : refAttrs it with
    | [] | [_] => simp [hr] at h2
    | _ :: _ :: _ => simpa using ⟨_, e⟩
  rw [if_neg h2] at hd
  cases hE : (unitAttrs it).isEmpty with
  | true =>
    obtain ⟨msg, e⟩ := (if_pos hE).mp hd
    simpa using ⟨_, e⟩
  | false =>
    have hne : unitAttrs it ≠ [] := fun h => by simp [h] at hE
    simp only [hE, Bool.not_false, Bool.true_and, Bool.false_eq_true, if_false] at hd ⊢
    split at hd
    · next hr =>
      simp only [hr]
      exact scan _ hd fun us h1 h2 => ⟨hne, us, h1, h2, .inl ⟨trivial, rfl⟩⟩
    · next r l hr =>
      obtain ⟨j, -, hd⟩ := hd
      obtain rfl : l = [] := List.length_eq_zero_iff.mp (by simpa [hr] using h2)
      simp only [hr]
      cases hpr : parseUnit r.toks with
      | none => obtain ⟨msg, e⟩ := (hpr ▸ hd :); simpa using ⟨_, e⟩
      | some rd =>
        simp only [hpr] at hd ⊢
        obtain ⟨_, _, _, _, sc, _⟩ := rd
        cases sc with
        | some l => obtain ⟨msg, e⟩ := (by simpa using hd : ∃ msg, declared it = _); simpa using ⟨_, e⟩
        | none =>
          simp only [Option.isSome_none, Bool.false_eq_true, if_false, Option.isNone_none, Bool.true_and] at hd ⊢
          exact scan _ hd fun us h1 h2 => ⟨hne, us, h1, h2, .inr ⟨r, _, rfl, hpr, rfl, rfl⟩⟩

/-- `declared` ignores the arguments (`declared_args`): apply `declared_wf` to the item with its
arguments emptied -/
theorem declared_ok_spec (it : RawItem) (dc : Declared) (h : declared it = .ok dc) :
    DeclaredAs it dc := by
  have := declared_wf { it with args := [] } rfl
  rw [declared_args] at this
  split at this
  · obtain ⟨dc', h', hdc⟩ := this
    cases h.symm.trans h'
    exact hdc
  · obtain ⟨e, h'⟩ := this
    cases h.symm.trans h'

/-- the macro accepts EXACTLY the well-formed definitions (any number of units) -/
theorem expand_ok_iff (it : RawItem) : (∃ d, expand it = .ok d) ↔ WellFormedRaw it = true := by
  rw [expand_ok_iff_declared]
  cases ha : argsOk it.args with
  | false => simp [WellFormedRaw, ha]
  | true =>
    have := declared_wf it ha
    split at this
    · next h => exact ⟨fun _ => h, fun _ => ⟨this.imp fun _ h => h.1, rfl⟩⟩
    · next h =>
      obtain ⟨e, he⟩ := this
      simp [he, h]

/-- the six documented forms of a unit attribute are parsed faithfully: identifier ↦ variant
(UpperCamel) and name (underscores shown as spaces), symbol, prefix, scale literal, doc -/
theorem parse_unit_forms (i s d p : Text) (l : Lit) :
    parseUnit [.ident i, .comma, .str s] =
      some ⟨Case.upperCamel i, i.map (fun c => if c = 95 then 32 else c), s, none, none, none⟩ ∧
    parseUnit [.ident i, .comma, .str s, .comma, .str d] =
      some ⟨Case.upperCamel i, i.map (fun c => if c = 95 then 32 else c), s, none, none, some d⟩ ∧
    parseUnit [.ident i, .comma, .str s, .comma, .float l] =
      some ⟨Case.upperCamel i, i.map (fun c => if c = 95 then 32 else c), s, none, some l, none⟩ ∧
    parseUnit [.ident i, .comma, .str s, .comma, .int l, .comma, .str d] =
      some ⟨Case.upperCamel i, i.map (fun c => if c = 95 then 32 else c), s, none, some l, some d⟩ ∧
    parseUnit [.ident i, .comma, .str s, .comma, .ident p, .comma, .float l] =
      some ⟨Case.upperCamel i, i.map (fun c => if c = 95 then 32 else c), s, some p, some l, none⟩ ∧
    parseUnit [.ident i, .comma, .str s, .comma, .ident p, .comma, .int l, .comma, .str d] =
      some ⟨Case.upperCamel i, i.map (fun c => if c = 95 then 32 else c), s, some p, some l, some d⟩ := by
  refine ⟨rfl, rfl, rfl, rfl, rfl, rfl⟩

/-- what the expansion contains: the struct's name, and exactly one unit per `#[unit]` /
`#[ref_unit]` attribute, carrying what that attribute declares (the reference unit gets
the scale literal `1.0`) -/
theorem expand_faithful (it : RawItem) (d : QtyDef) (h : expand it = .ok d) :
    d.name = it.name ∧
    d.units.length = (unitAttrs it).length + (refAttrs it).length ∧
    (∀ u ∈ d.units, ∃ a ∈ it.attrs, ∃ u0, parseUnit a.toks = some u0 ∧
      ((a.kind = .unit ∧ u = u0) ∨ (a.kind = .refUnit ∧ u = { u0 with scale := some litOne }))) ∧
    (d.refIdent.isSome ↔ (refAttrs it) ≠ []) := by
  obtain ⟨dc, dv, hd, _, rfl⟩ := expand_ok_inv it d h
  obtain ⟨_, _, _, _, us, hus, hlen, hc⟩ := declared_ok_spec it dc hd
  have hperm := isort_perm (orderOf dc) dc.units
  have hmem : ∀ u ∈ us, ∃ a ∈ it.attrs, ∃ u0, parseUnit a.toks = some u0 ∧
      ((a.kind = .unit ∧ u = u0) ∨ (a.kind = .refUnit ∧ u = { u0 with scale := some litOne })) := by
    intro u hu
    obtain ⟨a, ha, hpa⟩ := List.mem_filterMap.mp (hus ▸ hu)
    obtain ⟨ha, hk⟩ := List.mem_filter.mp ha
    exact ⟨a, ha, u, hpa, .inl ⟨by simpa using hk, rfl⟩⟩
  rcases hc with ⟨hr, rfl⟩ | ⟨r, rd, hr, hpr, _, rfl⟩
  · exact ⟨rfl, by simp [hperm.length_eq, hr, hlen], fun u hu => hmem u (hperm.mem_iff.mp hu),
      by simp [hr]⟩
  · refine ⟨rfl, by simp [hperm.length_eq, hr, hlen], fun u hu => ?_, by simp [hr]⟩
    rcases List.mem_cons.mp (hperm.mem_iff.mp hu) with rfl | hu
    · obtain ⟨ha, hk⟩ := List.mem_filter.mp (hr ▸ List.mem_singleton_self r : r ∈ refAttrs it)
      exact ⟨r, ha, rd, hpr, .inr ⟨by simpa using hk, rfl⟩⟩
    · exact hmem u hu

/-- the path the generator takes depends only on the declaration: single unit, without or
with reference unit -/
theorem expand_kind (it : RawItem) (d : QtyDef) (h : expand it = .ok d) :
    d.kind = (if (unitAttrs it).length + (refAttrs it).length = 1 then QtyKind.single
              else if (refAttrs it) = [] then .noRef else .withRef) := by
  obtain ⟨_, hl, _, hr⟩ := expand_faithful it d h
  rw [QtyDef.kind, hl]
  by_cases h1 : (unitAttrs it).length + (refAttrs it).length = 1
  · simp [h1]
  · cases hd : d.refIdent <;> simp [hd] at hr <;> simp [h1, hr]

theorem refIdent_of_withRef (d : QtyDef) (hk : d.kind = .withRef) : ∃ r, d.refIdent = some r := by
  cases hr : d.refIdent with
  | some r => exact ⟨r, rfl⟩
  | none =>
    rw [QtyDef.kind, hr] at hk
    split_ifs at hk with h1 h2
    exact absurd rfl h2

set_option linter.unusedVariables false in
/-- reordering the unit attributes changes nothing but, possibly, the order of the units:
the two expansions have the same units (as multisets), the same reference unit and the same
derivation; both unit lists are the stable sort of what is declared
(`C09.iter_is_sorted_declaration`).  `hs`, `hg`, `hf` are not used. -/
theorem permutation_invariant (it1 it2 : RawItem) (hp : it1.attrs.Perm it2.attrs)
    (hn : it1.name = it2.name) (ha : it1.args = it2.args) (hs : it1.isStruct = it2.isStruct)
    (hg : it1.hasGenerics = it2.hasGenerics) (hf : it1.hasFields = it2.hasFields)
    (d1 d2 : QtyDef) (h1 : expand it1 = .ok d1) (h2 : expand it2 = .ok d2) :
    d1.units.Perm d2.units ∧ d1.refIdent = d2.refIdent ∧ d1.derived = d2.derived ∧ d1.name = d2.name := by
  obtain ⟨dc1, dv1, hd1, ha1, rfl⟩ := expand_ok_inv it1 d1 h1
  obtain ⟨dc2, dv2, hd2, ha2, rfl⟩ := expand_ok_inv it2 d2 h2
  obtain ⟨_, _, _, _, us1, hus1, _, hc1⟩ := declared_ok_spec it1 dc1 hd1
  obtain ⟨_, _, _, _, us2, hus2, _, hc2⟩ := declared_ok_spec it2 dc2 hd2
  have hpu : (unitAttrs it1).Perm (unitAttrs it2) := hp.filter _
  have hpr : (refAttrs it1).Perm (refAttrs it2) := hp.filter _
  have hus : us1.Perm us2 := by rw [hus1, hus2]; exact hpu.filterMap _
  have hdv : dv1 = dv2 := by
    rw [ha] at ha1; rw [ha1] at ha2; exact Except.ok.inj ha2
  have key : dc1.units.Perm dc2.units ∧ dc1.refIdent = dc2.refIdent := by
    rcases hc1 with ⟨hr1, rfl⟩ | ⟨r1, rd1, hr1, hp1, _, rfl⟩ <;>
      rcases hc2 with ⟨hr2, rfl⟩ | ⟨r2, rd2, hr2, hp2, _, rfl⟩
    · exact ⟨hus, rfl⟩
    · rw [hr1, hr2] at hpr; simpa using hpr.length_eq
    · rw [hr1, hr2] at hpr; simpa using hpr.length_eq
    · rw [hr1, hr2] at hpr
      have : r1 = r2 := by simpa using hpr
      subst this
      rw [hp1] at hp2
      cases hp2
      exact ⟨hus.cons _, rfl⟩
  refine ⟨?_, key.2, hdv, hn⟩
  exact ((isort_perm _ _).trans key.1).trans (isort_perm _ _).symm

/-- and a permuted well-formed definition is again well-formed -/
theorem wellformed_perm (it1 it2 : RawItem) (hp : it1.attrs.Perm it2.attrs)
    (ha : it1.args = it2.args) (hs : it1.isStruct = it2.isStruct)
    (hg : it1.hasGenerics = it2.hasGenerics) (hf : it1.hasFields = it2.hasFields)
    (h : WellFormedRaw it1 = true) : WellFormedRaw it2 = true := by
  have hpu : (unitAttrs it1).Perm (unitAttrs it2) := hp.filter _
  have hpr : (refAttrs it1).Perm (refAttrs it2) := hp.filter _
  have hall : ∀ f : RawAttr → Bool, (unitAttrs it2).all f = (unitAttrs it1).all f :=
    fun f => (hpu.all_eq).symm
  have hemp : (unitAttrs it2).isEmpty = (unitAttrs it1).isEmpty := by
    have := hpu.length_eq
    cases h1 : unitAttrs it1 <;> cases h2 : unitAttrs it2 <;> simp [h1, h2] at this ⊢
  unfold WellFormedRaw at h ⊢
  rw [← ha, ← hs, ← hg, ← hf, hemp, hall, hall]
  cases h1 : refAttrs it1 with
  | nil =>
    rw [h1] at hpr h
    rw [List.nil_perm.mp hpr]; exact h
  | cons r l =>
    cases l with
    | nil =>
      rw [h1] at hpr h
      rw [← List.singleton_perm.mp hpr]; exact h
    | cons r' l => rw [h1] at h; simp at h

/-- in the decimal back-end the scale a unit reports is the literal's exact value (`Dec.ofLit`
accepts a literal only if it is representable: at most 18 fractional digits) -/
theorem scale_is_literal_value (l : Lit) (d : Dec) (h : Dec.ofLit l = some d) : d.toRat = l.value :=
  Dec.ofLit_toRat l d h

/-- non-vacuity: a concrete well-formed definition with three attributes in "wrong" order -/
example : WellFormedRaw
    { args := [], name := [81],
      attrs := [⟨.unit, [.ident [66], .comma, .str [98], .comma, .float { digits := 5, nfrac := 1, isFloat := true }]⟩,
                ⟨.refUnit, [.ident [65], .comma, .str [97]]⟩,
                ⟨.unit, [.ident [67], .comma, .str [99], .comma, .ident [75, 73, 76, 79], .comma, .int { digits := 1000 }]⟩] } = true := by
  decide +kernel

end Qty.C11
