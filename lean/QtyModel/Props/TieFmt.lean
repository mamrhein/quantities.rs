import QtyModel.Lemmas.Pad
import QtyModel.Generated.FmtAlgos
/-
  Tie between code and model for the TEXT OUTPUT code.

  `Generated/FmtAlgos.lean` is re-emitted from `Unit::fmt`, `Quantity::fmt` (src/lib.rs) and
  `impl Display for Rate` (src/rate.rs) on every run (tools/translate_fmt.py).  The theorems below
  state that the re-emitted functions ARE the hand-written `padStr`, `qtyFmt`, `rateFmt` which the
  C15 theorems are about.  `F` is whatever the amount type provides (its own `Display`, `>=`, `==`,
  `abs`, unary minus); nothing is assumed about it.
-/
namespace Qty.AlgoTie
open Qty.Fmt Qty.Gen.FmtAlgos Qty.C15

/-- `Unit::fmt` hands the symbol to the string formatting of `core::fmt` -/
theorem unit_fmt_eq (sp : Spec) (symbol : Text) : Unit.fmt sp symbol = padStr sp symbol := rfl

/-- with the default format specification a string is written as it is -/
theorem padStr_default (s : Text) : padStr {} s = s := rfl

/-- the sign strings are ASCII: their byte length (`str::len`) is their length in characters -/
theorem utf8Len_sign (sp : Spec) (nonneg : Bool) : utf8Len (signOf sp nonneg) = (signOf sp nonneg).length := by
  cases nonneg <;> cases h : sp.plus <;> simp [signOf, h] <;> rfl

/-- what is missing to the width, as `Quantity::fmt` computes it (`Some(width) if width > len`) -/
theorem pad_eq (width : Option Nat) (len : Nat) :
    (match width with
      | some width => if decide (width > len) then width - len else 0
      | none => 0) = width.getD 0 - len := by
  cases width with
  | none => exact (Nat.zero_sub _).symm
  | some w =>
    show (if decide (w > len) = true then w - len else 0) = w - len
    split
    · rfl
    · next h => exact (Nat.sub_eq_zero_of_le (Nat.le_of_not_gt fun hgt => h (decide_eq_true hgt))).symm

/-- the padding part of the re-emitted `Quantity::fmt`, with the sign and the text
`<amount> <symbol>` abstracted -/
def padShape (sp : Spec) (sign body : Text) : Text :=
  let len := (body.length + utf8Len sign)
  let pad := (match sp.width with | some width => if decide (width > len) then (width - len) else 0 | none => 0)
  if sp.zero then
    sign ++ rep pad 48 ++ body
  else
    let (pre, post) := (match sp.align with | some .left => (0, pad) | some .center => ((pad / 2), (((pad + 1)) / 2)) | _ => (pad, 0))
    let fill := (sp.fill.getD 32)
    rep pre fill ++ sign ++ body ++ rep post fill

/-- that padding IS `padNumeric` (`pad_integral` with the width counted in characters) -/
theorem padShape_eq (sp : Spec) (nonneg : Bool) (body : Text) :
    padShape sp (signOf sp nonneg) body = padNumeric sp nonneg body := by
  rw [padNumeric_eq]
  unfold padShape padding
  rw [utf8Len_sign]
  dsimp only
  rw [pad_eq]
  cases sp.zero
  · rcases sp.align with _ | (_ | _ | _) <;> exact (no_zeros _ _ _).symm
  · exact (List.append_nil _).symm

/-- the amount that `Quantity::fmt` displays: `.abs()` under the decimal back-end, the amount or its
negation otherwise -/
def absShown {A : Type} (F : AmtFmt A) (amount : A) : A :=
  if F.isDec then F.abs amount else (if F.ge amount F.zero then amount else F.neg amount)

/-- `Quantity::fmt` of a unit-less value is the amount's own `Display` under the same specification -/
theorem quantity_fmt_unitless {A : Type} (F : AmtFmt A) (sp : Spec) (amount : A) :
    Quantity.fmt F sp amount [] = F.disp sp amount := rfl

/-- the re-emitted body, for a unit with a symbol, is the padding shape around `<abs amount> <symbol>` -/
theorem quantity_fmt_shape {A : Type} (F : AmtFmt A) (sp : Spec) (amount : A) (symbol : Text)
    (hs : symbol ≠ []) :
    Quantity.fmt F sp amount symbol =
      padShape sp (signOf sp (F.ge amount F.zero))
        (F.disp { prec := sp.prec } (absShown F amount) ++ [32] ++ symbol) := by
  have he : symbol.isEmpty = false := by
    cases symbol with
    | nil => exact absurd rfl hs
    | cons _ _ => rfl
  unfold Quantity.fmt
  simp only [he, Bool.false_eq_true, if_false]
  rcases sp with ⟨fill, align, plus, zero, width, prec⟩
  cases prec <;> rfl

/-- `Quantity::fmt` for a unit with a symbol: the absolute amount (under the requested precision, or
plain), one space, the symbol; sign, `+` flag, fill, alignment, width and sign-aware zero padding
applied to the whole with the width counted in characters — i.e. `qtyFmt` -/
theorem quantity_fmt_eq {A : Type} (F : AmtFmt A) (sp : Spec) (amount : A) (symbol : Text)
    (hs : symbol ≠ []) :
    Quantity.fmt F sp amount symbol =
      qtyFmt sp (F.ge amount F.zero) (F.disp { prec := sp.prec } (absShown F amount)) symbol := by
  rw [quantity_fmt_shape F sp amount symbol hs, padShape_eq]
  rfl

/-- `Display for Rate`: `term / per`; the per-multiple is left out when it equals one, a symbol is
left out when it is empty -/
theorem rate_fmt_eq {A : Type} (F : AmtFmt A) (sp : Spec) (ta : A) (ts : Text) (pm : A) (ps : Text) :
    Rate.fmt F sp ta ts pm ps =
      rateFmt (F.disp {} ta) ts (F.disp {} pm) ps (F.beq pm F.one) := by
  unfold Rate.fmt rateFmt
  simp only [padStr_default]
  cases ts.isEmpty <;> rfl

end Qty.AlgoTie
