import QtyModel.Ops
import QtyModel.Generated.Algos
/- Tie between code and model: the definitions re-emitted from the Rust source (`Generated/Algos.lean`) ARE
   the model's, for `HasRefUnit::div`. -/
namespace Qty.AlgoTie
open Qty.Gen.Algos

variable {A U : Type} [DecidableEq U]
variable (R : Arith A) (T : QT A U)

theorem div_eq (a b : Q A U) : HasRefUnit.div R T a b = hrDiv R T a b := rfl

end Qty.AlgoTie
