import QtyModel.Lemmas.F64Laws
import QtyModel.Lemmas.Basic
import QtyModel.Registry
/-
  C09 — the two orders `analyze` sorts by.  `keyLe` is a total preorder on the units that carry a
  scale literal (all units of a definition with reference unit); on other units it is not
  transitive (a NaN key is `≤` both ways), so `C09.iter_sorted` does not apply to it: sortedness of
  such a definition is `Bridge.units_sorted_keyLe`, through `isort_sorted_on` with the class
  `HasScale`.  `nameLe` is a total preorder on all units.
-/
namespace Qty.C09
open Qty.MacroFront

/-- `keyLe` on the keys themselves -/
def f64Le (a b : F64) : Bool :=
  match F64.pcmp a b with
  | some .gt => false
  | _ => true

theorem f64Le_fin (s t : Bool) (m n : Nat) (e f : Int) :
    f64Le (.fin s m e) (.fin t n f) = true ↔ F64.tr s m e ≤ F64.tr t n f := by
  unfold f64Le
  rw [F64.pcmp_fin, ← ratCmp_ne_gt_iff]
  cases ratCmp (F64.tr s m e) (F64.tr t n f) <;> simp

theorem f64Le_val (a b : F64) (x y : Rat) (ha : F64.val a = some x) (hb : F64.val b = some y) :
    f64Le a b = true ↔ x ≤ y := by
  obtain ⟨s, m, e, rfl, -, -, -, rfl⟩ := F64.val_some ha
  obtain ⟨t, n, f, rfl, -, -, -, rfl⟩ := F64.val_some hb
  exact f64Le_fin s t m n e f

/-- if `x == s` and `k`, `s` have one value, `k ≤ x` -/
theorem f64Le_of_beq (k x s : F64) (v : Rat) (hk : F64.val k = some v) (hs : F64.val s = some v)
    (hb : F64.beq x s = true) : f64Le k x = true := by
  obtain ⟨s0, m0, e0, rfl, -, -, -, h0⟩ := F64.val_some hk
  obtain ⟨s1, m1, e1, rfl, -, -, -, h1⟩ := F64.val_some hs
  unfold F64.beq at hb
  cases x with
  | nan => simp [F64.pcmp] at hb
  | inf t => cases t <;> simp [F64.pcmp] at hb
  | fin t n f =>
    rw [F64.pcmp_fin, ratCmp_beq_eq, decide_eq_true_eq] at hb
    rw [f64Le_fin, hb, ← h0, ← h1]

/-- the extended rational a non-NaN datum denotes: `⊥` is `-inf`, `⊤` is `+inf` -/
def extVal : F64 → WithBot (WithTop ℚ)
  | .fin s m e => ((F64.tr s m e : ℚ) : WithTop ℚ)
  | .inf true => ⊥
  | .inf false => ((⊤ : WithTop ℚ) : WithBot (WithTop ℚ))
  | .nan => ⊥

theorem f64Le_iff {a b : F64} (ha : a ≠ .nan) (hb : b ≠ .nan) :
    f64Le a b = true ↔ extVal a ≤ extVal b := by
  cases a with
  | nan => exact absurd rfl ha
  | inf s =>
    cases b with
    | nan => exact absurd rfl hb
    | inf t => cases s <;> cases t <;> simp [f64Le, F64.pcmp, extVal]
    | fin t n f => cases s <;> simp [f64Le, F64.pcmp_inf_fin, extVal]
  | fin s m e =>
    cases b with
    | nan => exact absurd rfl hb
    | inf t => cases t <;> simp [f64Le, F64.pcmp_fin_inf, extVal]
    | fin t n f => simp [f64Le_fin, extVal]

/-- units whose scale literal is present (all units of a definition with reference unit) -/
def HasScale (u : UnitDef) : Prop := u.scale.isSome = true

theorem sortKey_of_scale {u : UnitDef} {l : Lit} (h : u.scale = some l) :
    sortKey u = F64.round l.value false := by
  unfold sortKey; rw [h]

theorem sortKey_ne_nan (a : UnitDef) (ha : HasScale a) : sortKey a ≠ F64.nan := by
  obtain ⟨l, hl⟩ := Option.isSome_iff_exists.mp ha
  rw [sortKey_of_scale hl]
  exact F64.round_ne_nan _ _

theorem keyLe_eq (a b : UnitDef) : keyLe a b = f64Le (sortKey a) (sortKey b) := rfl

theorem keyLe_total (a b : UnitDef) (ha : HasScale a) (hb : HasScale b) :
    keyLe a b = true ∨ keyLe b a = true := by
  rw [keyLe_eq, keyLe_eq, f64Le_iff (sortKey_ne_nan a ha) (sortKey_ne_nan b hb),
    f64Le_iff (sortKey_ne_nan b hb) (sortKey_ne_nan a ha)]
  exact le_total _ _

theorem keyLe_trans (a b c : UnitDef) (ha : HasScale a) (hb : HasScale b) (hc : HasScale c)
    (hab : keyLe a b = true) (hbc : keyLe b c = true) : keyLe a c = true := by
  rw [keyLe_eq, f64Le_iff (sortKey_ne_nan _ ‹_›) (sortKey_ne_nan _ ‹_›)] at hab hbc ⊢
  exact hab.trans hbc

theorem textLe_iff : ∀ s t : Text, textLe s t = true ↔ s ≤ t
  | [], t => by simp [textLe, ← not_lt]
  | _ :: _, [] => by simp [textLe, ← not_lt]
  | a :: as, b :: bs => by
    rw [textLe, ← not_lt, List.cons_lt_cons_iff, ← not_le (a := as), ← textLe_iff as bs]
    rcases Nat.lt_trichotomy a b with h | rfl | h
    · simp [h, Nat.lt_asymm h, Nat.ne_of_gt h]
    · simp
    · simp [h, Nat.lt_asymm h]

/-- name order (types without reference unit) is a total preorder without any hypothesis -/
theorem nameLe_total (a b : UnitDef) : nameLe a b = true ∨ nameLe b a = true := by
  rw [nameLe, nameLe, textLe_iff, textLe_iff]
  exact le_total _ _

theorem nameLe_trans (a b c : UnitDef) (hab : nameLe a b = true) (hbc : nameLe b c = true) :
    nameLe a c = true := by
  rw [nameLe, textLe_iff] at hab hbc ⊢
  exact hab.trans hbc

end Qty.C09
