import QtyModel.SIPrefix
import QtyModel.Lemmas.ListFind
import QtyModel.Spec.SI
/-
  C16 — SI prefix table is a consistent bijection.

  The five hand-maintained tables of src/si_prefixes.rs are regenerated from the
  source on every run (`Generated/SI.lean`); the theorems are re-checked against
  what the source says now.  `from_abbr_iff` / `from_exp_iff` quantify over ALL
  strings / ALL integers, not over a sample.
-/
namespace Qty.C16
open Qty.SIPrefix

abbrev spec := Spec.SI.rows

theorem variants_match_spec : Gen.SI.variants = spec.map (fun r => (r.ident, r.exp)) := by decide +kernel
theorem names_match_spec : Gen.SI.nameArms = spec.map (fun r => (r.ident, r.name)) := by decide +kernel
theorem abbrs_match_spec : Gen.SI.abbrArms = spec.map (fun r => (r.ident, r.abbr)) := by decide +kernel
theorem from_abbr_arms_match_spec :
    Gen.SI.fromAbbrArms = spec.map (fun r => (some r.abbr, some r.ident)) ++ [(none, none)] := by decide +kernel
theorem from_exp_arms_match_spec :
    Gen.SI.fromExpArms = spec.map (fun r => (some r.exp, some r.ident)) ++ [(none, none)] := by decide +kernel

theorem spec_count : spec.length = 25 := by decide
theorem ident_injective : (spec.map (·.ident)).Nodup := by decide +kernel
theorem name_injective : (spec.map (·.name)).Nodup := by decide +kernel
theorem abbr_injective : (spec.map (·.abbr)).Nodup := by decide +kernel
theorem iter_increasing : (spec.map (·.exp)).Pairwise (· < ·) := by decide +kernel
theorem exp_injective : (spec.map (·.exp)).Nodup := iter_increasing.imp Int.ne_of_lt
theorem exps_in_i8 : spec.all (fun r => decide (-128 ≤ r.exp ∧ r.exp ≤ 127)) = true := by decide +kernel

/-- a `match` whose arms are `key r => Some(val r)` for the rows, then `_ => None` -/
theorem armsLookup_rows {α κ β : Type} [BEq κ] [LawfulBEq κ] (rows : List α) (key : α → κ) (val : α → β) (k : κ) :
    armsLookup (rows.map (fun r => (some (key r), some (val r))) ++ [(none, none)]) k =
      (rows.find? (fun x => key x == k)).map val := by
  unfold armsLookup
  induction rows with
  | nil => simp
  | cons a as ih => by_cases hk : key a = k <;> simp_all

/-- In a table with two columns `key` and `id`, neither with a repetition, the `match` from `key` to
`id` and the association from `id` to `key` are inverse to each other. -/
theorem armsLookup_iff_assoc {α κ ι : Type} [BEq κ] [LawfulBEq κ] [BEq ι] [LawfulBEq ι] (rows : List α)
    (key : α → κ) (id : α → ι) (hk : (rows.map key).Nodup) (hi : (rows.map id).Nodup) (k : κ) (p : ι) :
    armsLookup (rows.map (fun r => (some (key r), some (id r))) ++ [(none, none)]) k = some p ↔
      assoc (rows.map (fun r => (id r, key r))) p = some k := by
  simp only [armsLookup_rows, assoc, find_map_pair, Option.map_eq_some_iff, find_key_iff hk,
    find_key_iff hi]
  exact ⟨fun ⟨r, ⟨hm, h1⟩, h2⟩ => ⟨r, ⟨hm, h2⟩, h1⟩, fun ⟨r, ⟨hm, h1⟩, h2⟩ => ⟨r, ⟨hm, h2⟩, h1⟩⟩

/-- for EVERY string `s` and prefix `p`: `from_abbr(s) = Some(p)` iff `p.abbr() = s` -/
theorem from_abbr_iff (s p : Text) : fromAbbr s = some p ↔ abbr p = some s := by
  rw [fromAbbr, abbr, from_abbr_arms_match_spec, abbrs_match_spec]
  exact armsLookup_iff_assoc spec (·.abbr) (·.ident) abbr_injective ident_injective s p

/-- for EVERY integer `e` and prefix `p`: `from_exp(e) = Some(p)` iff `p.exp() = e` -/
theorem from_exp_iff (e : Int) (p : Text) : fromExp e = some p ↔ exp p = some e := by
  rw [fromExp, exp, from_exp_arms_match_spec, variants_match_spec]
  exact armsLookup_iff_assoc spec (·.exp) (·.ident) exp_injective ident_injective e p

/-- nothing for any other input -/
theorem from_abbr_none (s : Text) (h : ∀ r ∈ spec, r.abbr ≠ s) : fromAbbr s = none := by
  rw [fromAbbr, from_abbr_arms_match_spec, armsLookup_rows spec (·.abbr),
    List.find?_eq_none.mpr (by simpa using h)]
  rfl

theorem from_exp_none (e : Int) (h : ∀ r ∈ spec, r.exp ≠ e) : fromExp e = none := by
  rw [fromExp, from_exp_arms_match_spec, armsLookup_rows spec (·.exp),
    List.find?_eq_none.mpr (by simpa using h)]
  rfl

/-- iteration yields every prefix once, in the order of the rows, i.e. by increasing exponent
(`iter_increasing`) -/
theorem iter_complete : iter = spec.map (·.ident) := by
  unfold iter; rw [variants_match_spec]; simp [List.map_map, Function.comp_def]

theorem iter_nodup : iter.Nodup := by rw [iter_complete]; exact ident_injective

/-- non-vacuity: concrete lookups -/
example : fromAbbr [100, 97] = some [68, 69, 67, 65] := by decide +kernel   -- "da" ↦ DECA
example : fromExp (-6) = some [77, 73, 67, 82, 79] := by decide +kernel     -- -6 ↦ MICRO
example : fromExp 4 = none := by decide +kernel
example : fromAbbr [75] = none := by decide +kernel                         -- "K"

end Qty.C16
