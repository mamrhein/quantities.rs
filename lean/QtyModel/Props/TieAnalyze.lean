import QtyModel.Registry
import QtyModel.Generated.Algos
/-
  Tie between code and model for the ORDER in which `analyze` (qty-macros) leaves the units:
  the statements that assign, extend and sort `qty_def.units` are executed symbolically by the
  translator along both paths (with / without `#[ref_unit]`) and re-emitted as list expressions;
  a stable sort by a comparator is `isort` by "not Greater".
-/
namespace Qty.AlgoTie
open Qty.MacroFront Qty.Gen.Algos

theorem textCmp_ne_gt (x y : Text) : (textCmp x y != Ordering.gt) = textLe x y := by
  induction x generalizing y with
  | nil => cases y <;> rfl
  | cons a as ih =>
    cases y with
    | nil => rfl
    | cons b bs =>
      simp only [textCmp, textLe]
      by_cases h1 : a < b
      · simp [h1]
      · by_cases h2 : a > b
        · simp [h1, h2]
        · simp only [h1, h2, if_false]
          exact ih bs

theorem keyCmp_ne_gt (a b : UnitDef) :
    (unwrapOrd (F64.pcmp (sortKey a) (sortKey b)) != Ordering.gt) = keyLe a b := by
  unfold keyLe
  cases F64.pcmp (sortKey a) (sortKey b) with
  | none => rfl
  | some o => cases o <;> rfl

/-- with a reference unit: the reference unit (given the literal `1.0`) is put in front of the
`#[unit]` attributes in source order, then a stable sort by the `f64` value of the scale -/
theorem analyze_withRef_eq (r : UnitDef) (us : List UnitDef) :
    Analyze.withRef r us = isort keyLe (r :: us) := by
  unfold Analyze.withRef
  congr 1
  funext a b
  exact keyCmp_ne_gt a b

/-- without reference unit: a stable sort by name -/
theorem analyze_noRef_eq (us : List UnitDef) : Analyze.noRef us = isort nameLe us := by
  unfold Analyze.noRef
  congr 1
  funext a b
  exact textCmp_ne_gt a.name b.name

/-- the model's `analyze` orders what a definition declares exactly this way -/
theorem analyze_units (it : RawItem) (dc : Declared) (h : declared it = .ok dc) :
    (analyze it).map (·.units) =
      .ok (if dc.refIdent.isSome then isort keyLe dc.units else isort nameLe dc.units) := by
  unfold analyze
  rw [h]
  unfold orderOf
  cases hr : dc.refIdent <;> simp [Except.map, hr]

end Qty.AlgoTie
