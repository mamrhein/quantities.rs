import QtyModel.Props.OracleSoundJudge
import QtyModel.Props.C13
/- `OracleSound`, C13: the rate oracles accept the model. -/
namespace Qty.OracleSound

variable {A : Type} (R : Arith A)

/-- C13, `rate * q` (`Main.lean`, op `rate … mulq`, `Approx.judge a1 (R.val z) "rate * q is not …"`):
`a1` is what `approxRateApply` returned, `z` the amount of the model's `mulQ`. -/
theorem judge_accepts_mulQ {M : ErrModel} (L : Laws R M) (TP : RTable A) (r : Rate A) (q : Q A Nat)
    (qv pmv tav : Rat) (a1 : Option Approx)
    (hq : R.val q.amount = some qv) (hpm : R.val r.perMultiple = some pmv) (hta : R.val r.termAmount = some tav)
    (hw : approxRateApply R M TP (Approx.exact qv) q.unit r.perUnit (Approx.exact pmv) (Approx.exact tav) = .ok a1)
    (res : Q A Nat) (hres : Rate.mulQ R TP r q = .ok res) (why w : String) :
    Approx.judge a1 (R.val res.amount) why ≠ .fail w := by
  refine judge_accepts_realised R a1 res.amount why ?_ w
  rintro x' rfl hok
  obtain ⟨res', hres', -, hreal⟩ := C13.mulQ_sound R L TP r q qv pmv tav x' hq hpm hta hw hok
  cases hres.symm.trans hres'
  exact hreal

/-- C13, `q / rate` (`Main.lean`, op `rate … divq`, `Approx.judge a1 (R.val z) "q / rate is not …"`) -/
theorem judge_accepts_divQ {M : ErrModel} (L : Laws R M) (TT : RTable A) (r : Rate A) (q : Q A Nat)
    (qv pmv tav : Rat) (a1 : Option Approx)
    (hq : R.val q.amount = some qv) (hpm : R.val r.perMultiple = some pmv) (hta : R.val r.termAmount = some tav)
    (hw : approxRateApply R M TT (Approx.exact qv) q.unit r.termUnit (Approx.exact tav) (Approx.exact pmv) = .ok a1)
    (res : Q A Nat) (hres : Rate.divQ R TT q r = .ok res) (why w : String) :
    Approx.judge a1 (R.val res.amount) why ≠ .fail w :=
  judge_accepts_mulQ R L TT r.reciprocal q qv tav pmv a1 hq hta hpm hw res hres why w

end Qty.OracleSound
