import QtyModel.Ops
import QtyModel.Generated.Algos
/- Tie between code and model: the definitions re-emitted from the Rust source (`Generated/Algos.lean`) ARE
   the model's, for `HasRefUnit::{eq, partial_cmp}`. -/
namespace Qty.AlgoTie
open Qty.Gen.Algos

variable {A U : Type} [DecidableEq U]
variable (R : Arith A) (T : QT A U)

theorem eq_eq (a b : Q A U) : HasRefUnit.eq R T a b = hrEq R T a b := rfl

theorem partial_cmp_eq (a b : Q A U) : HasRefUnit.partial_cmp R T a b = hrPcmp R T a b := rfl

end Qty.AlgoTie
