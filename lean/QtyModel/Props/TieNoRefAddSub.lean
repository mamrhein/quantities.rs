import QtyModel.Ops
import QtyModel.Generated.Algos
/- Tie between code and model: the definitions re-emitted from the Rust source (`Generated/Algos.lean`) ARE
   the model's, for `Quantity::{add, sub}`, used by types without reference unit. -/
namespace Qty.AlgoTie
open Qty.Gen.Algos

variable {A U : Type} [DecidableEq U]
variable (R : Arith A) (T : QT A U)

theorem nr_add_eq (a b : Q A U) : Quantity.add R T a b = nrAdd R a b := rfl
theorem nr_sub_eq (a b : Q A U) : Quantity.sub R T a b = nrSub R a b := rfl

end Qty.AlgoTie
