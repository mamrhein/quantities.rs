import QtyModel.TypingSpec
/-
  C06 — the general statement: for EVERY list of declarations (not only the regenerated
  catalogue) the lookup in the generated impl table agrees with the specification relation.

  The table has three segments (`implTable`).  The lookup in each is brought into a closed form:
  the amount impls and the impls every quantity type gets by evaluating the lookup on the explicit
  rows, the derived impls as `findSome?` of the per-declaration function `alongF` that
  `TypingSpec.alongDerivation` filters by.
-/
namespace Qty.C06

/-- well-formed declaration lists: distinct type names, none of them `AmountT` or `bool` -/
def DeclsOk (decls : List TyDecl) : Prop :=
  (decls.map (·.name)).Nodup ∧ (∀ d ∈ decls, d.name ≠ amountName ∧ d.name ≠ boolName)

/-- the per-declaration function of `TypingSpec.alongDerivation` -/
def alongF (isMul : Bool) (l r : Text) (d : TyDecl) : Option Text :=
  match d.derived with
  | none => none
  | some dv =>
    let q := d.name
    let a := dv.lhs
    let b := dv.rhs
    if dv.isMul then
      if isMul then (if (l == a && r == b) || (l == b && r == a) then some q else none)
      else (if l == q && r == b then some a else if l == q && r == a then some b else none)
    else
      if isMul then (if (l == q && r == b) || (l == b && r == q) then some a else none)
      else (if l == a && r == b then some q else if l == a && r == q then some b else none)

theorem along_eq (decls : List TyDecl) (isMul : Bool) (l r : Text) :
    TypingSpec.alongDerivation decls isMul l r = decls.filterMap (alongF isMul l r) := rfl

/-- result type of the first impl for `l op r` among `xs`: `typechecks` is `look` in `implTable` -/
def look (op : BinOp) (l r : Text) (xs : List OpImpl) : Option Text :=
  (xs.find? (fun i => i.op == op && i.lhs == l && i.rhs == r)).map (·.out)

section
variable (op : BinOp) (l r : Text)

@[simp] theorem look_nil : look op l r [] = none := rfl

@[simp] theorem look_cons (op' : BinOp) (a b o : Text) (xs : List OpImpl) :
    look op l r (⟨op', a, b, o⟩ :: xs) =
      if op' = op ∧ a = l ∧ b = r then some o else look op l r xs := by
  unfold look
  by_cases h : op' = op ∧ a = l ∧ b = r
  · obtain ⟨rfl, rfl, rfl⟩ := h
    rw [List.find?_cons_of_pos (by simp), if_pos ⟨rfl, rfl, rfl⟩]
    rfl
  · rw [List.find?_cons_of_neg (by simpa [and_assoc] using h), if_neg h]

theorem look_append (xs ys : List OpImpl) :
    look op l r (xs ++ ys) = (look op l r xs).or (look op l r ys) := by
  rw [look, List.find?_append, Option.map_or]
  rfl

theorem look_flatMap {α : Type} (f : α → List OpImpl) (as : List α) :
    look op l r (as.flatMap f) = as.findSome? (fun a => look op l r (f a)) := by
  rw [look, List.find?_flatMap, List.map_findSome?]
  rfl

/-- a filter on the operand types either keeps every impl for `l op r` or none -/
theorem look_filter (g : Text → Bool) (xs : List OpImpl) :
    look op l r (xs.filter (fun i => g i.lhs && g i.rhs)) =
      if g l && g r then look op l r xs else none := by
  have key (i : OpImpl) : ((g i.lhs && g i.rhs) && (i.op == op && i.lhs == l && i.rhs == r)) =
      ((g l && g r) && (i.op == op && i.lhs == l && i.rhs == r)) := by
    by_cases h : i.lhs = l ∧ i.rhs = r
    · rw [h.1, h.2]
    · grind
  unfold look
  rw [List.find?_filter]
  simp only [Bool.decide_and, Bool.decide_eq_true, key]
  cases g l && g r <;> simp

/-- result type of the primitive impls of the amount type -/
def amountOut : BinOp → Text
  | .eq | .lt => boolName
  | _ => amountName

theorem look_amountImpls : look op l r amountImpls =
    if l = amountName ∧ r = amountName then some (amountOut op) else none := by
  cases op <;> simp [amountImpls, amountOut, eq_comm]

/-- a quantity type that has the comparison operators (more than one unit) -/
def cmpQty (decls : List TyDecl) (n : Text) : Bool :=
  decls.any (fun d => d.name == n && d.kind != .single)

theorem comparable_eq (decls : List TyDecl) (n : Text) :
    TypingSpec.comparable decls n = (n == amountName || cmpQty decls n) := rfl

theorem isQty_cons (d : TyDecl) (ds : List TyDecl) (n : Text) :
    TypingSpec.isQty (d :: ds) n = (d.name == n || TypingSpec.isQty ds n) := rfl

theorem cmpQty_cons (d : TyDecl) (ds : List TyDecl) (n : Text) :
    cmpQty (d :: ds) n = (d.name == n && d.kind != .single || cmpQty ds n) := rfl

/-- closed form of the lookup among the impls every quantity type gets -/
def baseSpec (decls : List TyDecl) (op : BinOp) (l r : Text) : Option Text :=
  match op with
  | .add | .sub => if l == r && TypingSpec.isQty decls l then some l else none
  | .eq | .lt =>
    if l == r && cmpQty decls l then some boolName else none
  | .mul =>
    if r == amountName && TypingSpec.isQty decls l then some l
    else if l == amountName && TypingSpec.isQty decls r then some r else none
  | .div =>
    if l == r && TypingSpec.isQty decls l then some amountName
    else if r == amountName && TypingSpec.isQty decls l then some l else none

theorem ite_and_or {α : Type} (a p q : Bool) (c : α) :
    (if (a && (p || q)) = true then some c else none) =
      (if (a && p) = true then some c else none).or (if (a && q) = true then some c else none) := by
  cases a <;> cases p <;> cases q <;> rfl

/-- With `op` fixed, `look_cons` evaluates the lookup on the eight rows to a chain of `if`s on
`d.name = l`, `d.name = r`; the closed form on `[d]` is the same chain, ordered differently
(`grind`: per operator at most three `if`s on each side). -/
theorem look_baseImpls (d : TyDecl) : look op l r (baseImpls d) = baseSpec [d] op l r := by
  cases op <;> simp [baseImpls, baseSpec, TypingSpec.isQty, cmpQty, apply_ite (look _ _ _)] <;> grind

/-- The closed form may be computed declaration by declaration, first match first, because the
result type it gives depends on `op`, `l`, `r` only. -/
theorem baseSpec_cons (d : TyDecl) (ds : List TyDecl) :
    baseSpec (d :: ds) op l r = (baseSpec [d] op l r).or (baseSpec ds op l r) := by
  have hq (n : Text) : TypingSpec.isQty [] n = false := rfl
  have hc (n : Text) : cmpQty [] n = false := rfl
  cases op <;> simp only [baseSpec, isQty_cons, cmpQty_cons, hq, hc, Bool.or_false]
  -- with two results (`*`, `/`) the two conditions can only hold together when `l = r = AmountT`
  case mul | div => grind
  all_goals exact ite_and_or ..

theorem look_flatMap_baseImpls (ds : List TyDecl) :
    look op l r (ds.flatMap baseImpls) = baseSpec ds op l r := by
  rw [look_flatMap]
  induction ds with
  | nil => cases op <;> simp [baseSpec, TypingSpec.isQty, cmpQty]
  | cons d ds ih =>
    rw [List.findSome?_cons, ih, baseSpec_cons, look_baseImpls]
    cases baseSpec [d] op l r <;> rfl

/-- `alongF` with the operator in place of its flag -/
def derF (op : BinOp) (l r : Text) : TyDecl → Option Text :=
  match op with
  | .mul => alongF true l r
  | .div => alongF false l r
  | _ => fun _ => none

/-- the impls of a derivation are impls of `*` and `/` -/
theorem look_derivedImpls_none (h1 : op ≠ .mul) (h2 : op ≠ .div) (d : TyDecl) :
    look op l r (derivedImpls d) = none := by
  rw [look, Option.map_eq_none_iff, List.find?_eq_none]
  intro i hi
  obtain ⟨j, -, rfl⟩ := List.mem_map.mp hi
  cases j.isMul <;> simp [h1.symm, h2.symm]

/-- The generator leaves out the impls that would be duplicates when two of the three types of a
derivation coincide; `alongF` has no such case, its repeated condition is harmless in an `if`
(`grind`: `*` and `/` for a product and for a quotient derivation, up to four impls each). -/
theorem look_derivedImpls (d : TyDecl) : look op l r (derivedImpls d) = derF op l r d := by
  cases op
  case mul | div =>
    obtain ⟨q, k, _ | ⟨a, m, b⟩⟩ := d
    · rfl
    · cases m <;>
        simp [derivedImpls, implsOf, implMulQties, implDivQties, derF, alongF, look_append,
          apply_ite (look _ _ _), apply_ite (List.map _)] <;> grind
  all_goals exact look_derivedImpls_none _ _ _ (by decide) (by decide) d

theorem typechecks_split (decls : List TyDecl) :
    typechecks decls op l r =
      (if l = amountName ∧ r = amountName then some (amountOut op) else none).or
        ((baseSpec decls op l r).or
          (if hasRefUnit decls l && hasRefUnit decls r then decls.findSome? (derF op l r)
            else none)) := by
  rw [show typechecks decls op l r = look op l r (implTable decls) from rfl, implTable,
    look_append, look_append, Option.or_assoc, look_amountImpls, look_flatMap_baseImpls,
    look_filter, look_flatMap]
  simp only [look_derivedImpls]

theorem isQty_of_hasRefUnit (decls : List TyDecl) (n : Text) (hn : n ≠ amountName)
    (h : hasRefUnit decls n = true) : TypingSpec.isQty decls n = true := by
  simp only [hasRefUnit, beq_eq_false_iff_ne.mpr hn, Bool.false_or, List.any_eq_true,
    Bool.and_eq_true] at h
  obtain ⟨d, hd, h1, _⟩ := h
  exact List.any_eq_true.mpr ⟨d, hd, h1⟩

theorem isQty_of_cmpQty (decls : List TyDecl) (n : Text) (h : cmpQty decls n = true) :
    TypingSpec.isQty decls n = true := by
  obtain ⟨d, hd, h1⟩ := List.any_eq_true.mp h
  exact List.any_eq_true.mpr ⟨d, hd, (Bool.and_eq_true _ _ ▸ h1).1⟩

end

/-- For every declaration list whatever, every operator and every pair of type names, the type
checker's verdict (first matching generated impl) is the specification's result.  The three
closed forms give `some` only for declared operand types (the two lemmas above), which is the
guard `isType l && isType r` of the specification; below the guard the two sides are the same
case distinction on `l = r`, `l = AmountT`, `r = AmountT`, left to `grind` with the lookup among the
derived impls as an unknown. -/
theorem typechecks_eq_result (decls : List TyDecl) (op : BinOp) (l r : Text) :
    typechecks decls op l r = TypingSpec.result decls op l r := by
  have hl := isQty_of_hasRefUnit decls l
  have hr := isQty_of_hasRefUnit decls r
  have hc := isQty_of_cmpQty decls l
  have hn : decls.findSome? (fun _ => (none : Option Text)) = none :=
    List.findSome?_eq_none_iff.mpr fun _ _ => rfl
  rw [typechecks_split]
  unfold TypingSpec.result
  cases op <;>
    simp [baseSpec, amountOut, derF, along_eq, TypingSpec.isType, comparable_eq, hn]
  case mul | div => generalize List.findSome? _ decls = F; grind
  all_goals grind

set_option linter.unusedVariables false in
/-- For every well-formed declaration list, every operator and every pair of type names, the
type checker's verdict (first matching generated impl) is the specification's result
(`h` is not used: `typechecks_eq_result`). -/
theorem typechecks_eq_spec (decls : List TyDecl) (h : DeclsOk decls) (op : BinOp) (l r : Text) :
    typechecks decls op l r = TypingSpec.result decls op l r :=
  typechecks_eq_result decls op l r

end Qty.C06
