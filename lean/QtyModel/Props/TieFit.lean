import QtyModel.Lemmas.Res
import QtyModel.Generated.Algos
/-
  Tie between code and model: the re-emitted `from_scale`, `unit_from_scale`, `is_ref_unit`, `_fit`
  (`Generated/Algos.lean`) are the definitions of `Ops.lean`.
-/
namespace Qty.AlgoTie
open Qty.Gen.Algos

variable {A U : Type} [DecidableEq U] (R : Arith A) (T : QT A U)

set_option linter.unusedSectionVars false in
theorem from_scale_eq (x : A) : LinearScaledUnit.from_scale R T x = unitFromScale R T x := rfl

set_option linter.unusedSectionVars false in
theorem unit_from_scale_eq (x : A) : HasRefUnit.unit_from_scale R T x = unitFromScale R T x := rfl

theorem is_ref_unit_eq (u : U) : LinearScaledUnit.is_ref_unit R T u = decide (u = T.ref) := rfl

omit [DecidableEq U] in
/-- the default `_fit` (every type but `AmountT`) -/
theorem default_fit_eq (h : T.fitIdentity = none) (x : A) : HasRefUnit._fit R T x = fit R T x := by
  unfold HasRefUnit._fit fit eligible
  simp only [h]
  cases List.filter (fun u => !T.hasPrefix T.ref || T.hasPrefix u) T.units with
  | nil => rfl
  | cons first rest =>
    simp only [List.head?_cons, List.tail_cons, unwrapOpt, Res.ok_bind]
    cases (List.filter (fun u => R.gt (T.scale u) (T.scale first) && R.le (T.scale u) x) rest).getLast? <;> rfl

omit [DecidableEq U] in
/-- `_fit` as the operator templates reach it (default method, or the identity of `AmountT`,
whose override the translator checked to be `fn _fit(amount) -> Self { amount }`) -/
theorem fitOf_eq (x : A) : fitOf R T x = fit R T x := by
  unfold fitOf
  cases h : T.fitIdentity with
  | some mk => simp only [fit, h]; rfl
  | none => simp only [default_fit_eq R T h]

end Qty.AlgoTie
