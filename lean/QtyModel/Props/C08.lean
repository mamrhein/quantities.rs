import QtyModel.Tables
import QtyModel.Lemmas.Res
/-
  C08 — Construction and scaling by numbers are exact and unit-preserving.

  All statements hold for EVERY arithmetic `R`, every unit type and every amount (including
  NaN, ±0, ±inf: nothing about the amount is assumed).  They are shallow by design — the
  generated code is a field store and one call of the amount type's operator — the value of the
  check is the correspondence run that ties these definitions to the real code.
-/
namespace Qty.C08

variable {A U : Type} (R : Arith A)

/-- constructor / `amount * unit` / `unit * amount` store exactly what was given -/
theorem new_amount (a : A) (u : U) : (Q.new a u).amount = a := rfl
theorem new_unit (a : A) (u : U) : (Q.new a u).unit = u := rfl

/-- `k * q`, `q * k`, `q / k`: unit kept, amount literally the amount type's operator on the
operands in that order -/
theorem smul_spec (k : A) (q : Q A U) :
    smul R k q = (R.mul k q.amount).map (fun a => ⟨a, q.unit⟩) :=
  smul_eq R k q

theorem muls_spec (q : Q A U) (k : A) :
    muls R q k = (R.mul q.amount k).map (fun a => ⟨a, q.unit⟩) :=
  muls_eq R q k

theorem sdiv_spec (q : Q A U) (k : A) :
    sdiv R q k = (R.div q.amount k).map (fun a => ⟨a, q.unit⟩) :=
  sdiv_eq R q k

theorem smul_unit (k : A) (q r : Q A U) (h : smul R k q = .ok r) : r.unit = q.unit :=
  Res.unit_of_map_eq_ok (smul_eq R k q ▸ h)
theorem muls_unit (k : A) (q r : Q A U) (h : muls R q k = .ok r) : r.unit = q.unit :=
  Res.unit_of_map_eq_ok (muls_eq R q k ▸ h)
theorem sdiv_unit (k : A) (q r : Q A U) (h : sdiv R q k = .ok r) : r.unit = q.unit :=
  Res.unit_of_map_eq_ok (sdiv_eq R q k ▸ h)

/-- the dimensionless amount is a quantity whose only unit has an empty symbol and scale one -/
theorem one_is_quantity :
    (RTable.amount R).n = 1 ∧
    ((RTable.amount R).units.toList.map (·.symbol)) = [[]] ∧
    (RTable.amount R).scaleOf R 0 = R.one ∧
    (RTable.amount R).refIx = some 0 :=
  ⟨rfl, rfl, rfl, rfl⟩

/-- non-vacuity: a concrete scaled value in the decimal arithmetic -/
example : smul Dec.arith ⟨3, 0⟩ (⟨⟨25, 1⟩, (2 : Nat)⟩ : Q Dec Nat) = .ok ⟨⟨75, 1⟩, 2⟩ := by decide

end Qty.C08
