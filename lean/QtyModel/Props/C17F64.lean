import QtyModel.Props.C15F64
import QtyModel.Props.C17
import QtyModel.Lemmas.Digits
import QtyModel.Lemmas.F64Laws
import QtyModel.Lemmas.Basic
import QtyModel.Lemmas.F64Canonical
/-
  C17 (binary64 back-end) — the JSON number text `F64.jsonText` computed by the model
  (`QtyModel/F64Text.lean`: ryu's shortest digits and layout, as `serde_json` writes them) and the
  exactly rounding reader `F64.parseJsonNum` (`[-]digits[.digits][(e|E)[+|-]digits]` ↦ the rational
  mantissa · 10^exponent rounded once with `F64.round`; `null` is not a number):

  (a) `jsonText_roundtrip`: the text of every finite canonical datum (every finite bit pattern,
      `jsonText_roundtrip_bits`) reads back as the identical datum, negative zero included;
  (b) `jsonText_injective`; `jsonText_ne_null` / `jsonText_eq_null_iff`: a value is written as
      `null` iff it is NaN or infinite (and then it does NOT read back: `f64_amount_nonfinite`);
  (c) `f64_amount_roundtrip`, `f64_de_ser`, `f64_ser_injective`: C17 with `.num (jsonText x)` as the
      amount leaf, for finite amounts.  `C17.de_ser` / `C17.ser_injective` ask for a codec that
      round-trips on EVERY value of the amount type, which binary64 does not (NaN, ±inf ↦ `null`);
      they are used here in two ways: in the form with the round-trip hypothesis at the serialised
      value only (`de_ser_at`, `ser_injective_at`, which are `C17.de_ser_of`, `C17.ser_injective_of`),
      and instantiated as they are with the type `Fin64` of finite doubles (`fin64_de_ser`,
      `fin64_ser_injective`);
  (d) `jsonText_shape`: the text matches the JSON number grammar (`JsonNumber`);
  and `shortestEven_spec`: ryu's digits lie on the same grid as `Display`'s
  (`C15F64.shortest_coarsest`, `shortest_closest`) and are equally close to `|x|`; they differ
  only on an exact tie, where they are even.

  Every text `ryu` writes is of the form `jnum ip fp x` = `ip[.fp][e±x]` and lays out its digits
  (`Lays`; `jsonAbs_lays` is the one place where the five layouts are told apart); the reader
  (`jnum_denotes`) and the grammar (`jnum_shape`) are about that form.
-/
namespace Qty.C17F64
open Qty.Fmt Qty.Digits Qty.F64 Qty.C15F64 Qty.Serde

theorem scale10_eq (v : ℚ) (x : ℤ) : scale10 v x = v * 10 ^ x := by
  rw [← ite_toNat_zpow]; simp only [scale10, pow10_eq]

/-- the always-signed exponent text reads back as the exponent -/
theorem parseExp_intText (x : ℤ) : parseExp (intText x) = some x := by
  have h1 : ∀ n, (natDigits n).isEmpty = false := fun n =>
    List.isEmpty_eq_false_iff.mpr (natDigits_ne_nil n)
  have h2 : ∀ n, (natDigits n).foldl (fun acc c => acc * 10 + (c - 48)) 0 = n := natDigits_num
  unfold intText
  split <;> simp only [parseExp, h1, h2, natDigits_all, Bool.not_true, Bool.or_self,
    Bool.false_eq_true, if_false, if_true, Option.some.injEq] <;> omega

/-- the exponent part of a JSON number text, if there is one -/
def expText : Option ℤ → Text
  | none => []
  | some x => 101 :: intText x

/-- the reader on `[-]mantissa[e±x]` with a plain mantissa: the decimal, scaled, rounded once -/
theorem parseJsonNum_plain {t : Text} {N nf : ℕ} (h : Plain t N nf) (s : Bool)
    (x : Option ℤ) :
    parseJsonNum (signText s ++ t ++ expText x)
      = some (round ((if s then -((N : ℚ) / 10 ^ nf) else (N : ℚ) / 10 ^ nf) * 10 ^ x.getD 0) s) := by
  have hm : ∀ c ∈ signText s ++ t, (!isExpMark c) = true := by
    intro c hc
    rcases List.mem_append.mp hc with hc | hc
    · cases s <;> simp_all [signText, isExpMark]
    · rcases h.chars c hc with hd | rfl
      · simp [Case.isDigit] at hd
        simp [isExpMark]; omega
      · decide
  -- the exponent part is empty or starts with `e`
  obtain ⟨e1, e2⟩ := takeWhile_dropWhile_append (l₂ := expText x) hm
    (by cases x; exacts [nofun, fun c hc => Option.some.inj hc ▸ rfl])
  unfold parseJsonNum
  simp only [e1, e2, h.parseDec, h.head_minus]
  cases x with
  | none => simp only [expText, Option.getD_none, zpow_zero, mul_one]
  | some x => simp only [expText, parseExp_intText, scale10_eq, Option.getD_some]

/-- `body` is a JSON number text denoting the non-negative rational `q`, and so does `-body`
denote `-q`: the reader returns the correctly rounded value, the sign of an exact zero being the
sign of the text -/
def Denotes (body : Text) (q : ℚ) : Prop :=
  ∀ s : Bool, parseJsonNum (if s then 45 :: body else body) = some (round (if s then -q else q) s)

theorem Denotes.sign {body : Text} {q : ℚ} (h : Denotes body q) (s : Bool) :
    parseJsonNum (signText s ++ body) = some (round (if s then -q else q) s) := by
  cases s
  · exact h false
  · exact h true

/-- `ip[.fp][e±x]`: every text `ryu` writes is of this form -/
def jnum (ip fp : Text) (x : Option ℤ) : Text := pointText ip fp ++ expText x

theorem jnum_denotes (ip fp : Text) (x : Option ℤ) (hne : ip ≠ []) (hi : ip.all Case.isDigit = true)
    (hf : fp.all Case.isDigit = true) :
    Denotes (jnum ip fp x) ((num (ip ++ fp) : ℚ) / 10 ^ fp.length * 10 ^ x.getD 0) := by
  intro s
  have := parseJsonNum_plain ⟨ip, fp, hne, hi, hf, rfl, rfl, rfl⟩ s x
  cases s
  · simpa [signText, jnum] using this
  · simpa [signText, jnum, neg_mul] using this

theorem denotes_int (ip : Text) (hne : ip ≠ []) (hd : ip.all Case.isDigit = true) :
    Denotes ip ((num ip : ℕ) : ℚ) := by
  simpa [jnum, expText, pointText_nil] using jnum_denotes ip [] none hne hd rfl

/-- a text that starts, after an optional `-`, with a digit is not `null` -/
theorem ne_null_of_digit {sg ip r : Text} (hsg : sg = [] ∨ sg = [45]) (hne : ip ≠ [])
    (hd : ip.all Case.isDigit = true) : sg ++ ip ++ r ≠ nullText := by
  cases ip with
  | nil => exact absurd rfl hne
  | cons c r' =>
    simp only [List.all_cons, Bool.and_eq_true] at hd
    have hc' : c ≠ 110 := by intro h; subst h; simp [Case.isDigit] at hd
    rcases hsg with rfl | rfl <;> simp [nullText, hc']

/-! ### the five layouts of ryu -/

theorem jnum_nil (ip : Text) (x : Option ℤ) : jnum ip [] x = ip ++ expText x := by
  rw [jnum, pointText_nil]

theorem jnum_of_ne (ip : Text) {fp : Text} (h : fp ≠ []) (x : Option ℤ) :
    jnum ip fp x = ip ++ [46] ++ fp ++ expText x := by
  simp only [jnum, pointText_of_ne ip h, List.append_assoc, List.singleton_append]

/-- `t` lays out the digits `D` at the exponent `k`: it is a text `ip[.fp][e±x]` whose digits
denote `D · 10^a`, shifted by the point and the exponent to `D · 10^k`, and whose
integer part has no superfluous leading zero -/
def Lays (D : ℕ) (k : ℤ) (t : Text) : Prop :=
  ∃ ip fp x, ∃ a : ℕ, t = jnum ip fp x ∧ ip ≠ [] ∧ ip.all Case.isDigit = true ∧
    fp.all Case.isDigit = true ∧ num (ip ++ fp) = D * 10 ^ a ∧
    (a : ℤ) - fp.length + x.getD 0 = k ∧ (D ≠ 0 → ip = [48] ∨ ip.head? ≠ some 48)

theorem Lays.denotes {D : ℕ} {k : ℤ} {t : Text} (h : Lays D k t) : Denotes t (decVal D k) := by
  obtain ⟨ip, fp, x, a, rfl, h2, h3, h4, h5, hk, -⟩ := h
  rw [← decVal_of_shift h5 hk]
  exact jnum_denotes ip fp x h2 h3 h4

theorem Lays.ne_null {D : ℕ} {k : ℤ} {t : Text} (h : Lays D k t) {sg : Text}
    (hsg : sg = [] ∨ sg = [45]) : sg ++ t ≠ nullText := by
  obtain ⟨ip, fp, x, a, rfl, h2, h3, -⟩ := h
  rw [jnum, pointText, List.append_assoc ip, ← List.append_assoc]
  exact ne_null_of_digit hsg h2 h3

/-- the digits of `D` with the point after the first `n` of them (no point if `n` is all) -/
theorem lays_split (D n : ℕ) (x : Option ℤ) (h0 : 0 < n) (hn : n ≤ (natDigits D).length) :
    Lays D (x.getD 0 - ((natDigits D).length - n : ℕ))
      (jnum ((natDigits D).take n) ((natDigits D).drop n) x) := by
  refine ⟨_, _, x, 0, rfl, List.ne_nil_of_length_pos (by rw [List.length_take]; omega),
    all_of_sublist (List.take_sublist _ _) (natDigits_all D),
    all_of_sublist (List.drop_sublist _ _) (natDigits_all D),
    by rw [List.take_append_drop, natDigits_num, pow_zero, mul_one],
    by rw [List.length_drop]; omega, fun h => Or.inr ?_⟩
  rw [List.head?_take, if_neg (by omega)]
  exact natDigits_head D h

/-- the digits of `D`, `n` zeros, `.0` -/
theorem lays_zeros (D n : ℕ) : Lays D n (jnum (natDigits D ++ rep n 48) [48] none) := by
  refine ⟨_, _, none, n + 1, rfl, by simp [natDigits_ne_nil], ?_, rfl, ?_, by simp,
    fun h => Or.inr ?_⟩
  · rw [List.all_append, natDigits_all, all_rep_zero]; rfl
  · rw [num_append, num_append, num_rep_zero, natDigits_num, num_single]
    simp [rep, pow_succ, Nat.mul_assoc]
  · rw [List.head?_append_of_ne_nil _ (natDigits_ne_nil D)]; exact natDigits_head D h

/-- `0.`, `n` zeros, the digits of `D` -/
theorem lays_frac (D n : ℕ) :
    Lays D (-((n + (natDigits D).length : ℕ) : ℤ)) (jnum [48] (rep n 48 ++ natDigits D) none) := by
  refine ⟨_, _, none, 0, rfl, by simp, rfl, ?_, ?_, ?_, fun _ => Or.inl rfl⟩
  · rw [List.all_append, natDigits_all, all_rep_zero]; rfl
  · rw [num_append, num_append, num_rep_zero, natDigits_num]; simp [num]
  · simp only [rep, List.length_append, List.length_replicate, Option.getD_none]; omega

/-- the digits `ryu` lays out: the shortest ones (even on a tie) without their trailing zeros;
`0 · 10^0` for a zero -/
def ryuDigits (m : ℕ) (e : ℤ) : ℕ × ℤ :=
  if m = 0 then (0, 0)
  else stripZeros (natDigits (shortestEven m e).1).length (shortestEven m e).1 (shortestEven m e).2

/-- `d…d0…0.0` is `lays_zeros`, `0.0…0d…d` is `lays_frac`, and `d…d.d…d`, `de±x`, `d.d…de±x` are
`lays_split` -/
theorem jsonAbs_lays (m : ℕ) (e : ℤ) : Lays (ryuDigits m e).1 (ryuDigits m e).2 (jsonAbs m e) := by
  unfold jsonAbs ryuDigits
  by_cases hm : m = 0
  · rw [if_pos hm, if_pos hm]
    exact ⟨[48], [48], none, 1, rfl, List.cons_ne_nil _ _, rfl, rfl, rfl, rfl, fun h => absurd rfl h⟩
  rw [if_neg hm, if_neg hm]
  dsimp only
  generalize stripZeros (natDigits (shortestEven m e).1).length (shortestEven m e).1
    (shortestEven m e).2 = r
  obtain ⟨D, k⟩ := r
  dsimp only
  have hne := natDigits_ne_nil D
  have hlen := natDigits_length_pos D
  by_cases c1 : 0 ≤ k ∧ ((natDigits D).length : ℤ) + k ≤ 16
  · have h := lays_zeros D k.toNat
    rw [jnum_of_ne _ (List.cons_ne_nil _ _), expText, List.append_nil,
      List.append_assoc _ [46] [48], Int.toNat_of_nonneg c1.1] at h
    rw [if_pos c1]
    exact h
  rw [if_neg c1]
  by_cases c2 : 0 < ((natDigits D).length : ℤ) + k ∧ ((natDigits D).length : ℤ) + k ≤ 16
  · have h := lays_split D ((natDigits D).length + k).toNat none (by omega) (by omega)
    rw [jnum_of_ne _ (List.ne_nil_of_length_pos (by rw [List.length_drop]; omega)), expText,
      List.append_nil, Option.getD_none, show (0 : ℤ) - _ = k by omega] at h
    rw [if_pos c2]
    exact h
  rw [if_neg c2]
  by_cases c3 : -5 < ((natDigits D).length : ℤ) + k ∧ ((natDigits D).length : ℤ) + k ≤ 0
  · have h := lays_frac D (-((natDigits D).length + k)).toNat
    rw [jnum_of_ne _ (List.append_ne_nil_of_right_ne_nil _ hne), expText, List.append_nil,
      ← List.append_assoc, show -(((_ : ℕ)) : ℤ) = k by omega] at h
    rw [if_pos c3]
    exact h
  rw [if_neg c3]
  have h := lays_split D 1 (some ((natDigits D).length + k - 1)) Nat.one_pos hlen
  rw [Option.getD_some, show ((natDigits D).length : ℤ) + k - 1 - _ = k by omega] at h
  by_cases c4 : (natDigits D).length = 1
  · rw [List.take_of_length_le c4.le, List.drop_of_length_le c4.le, jnum_nil, expText,
      ← List.singleton_append, ← List.append_assoc] at h
    rw [if_pos c4]
    exact h
  · rw [jnum_of_ne _ (List.ne_nil_of_length_pos (by rw [List.length_drop]; omega)), expText,
      ← List.singleton_append (l := intText _), ← List.append_assoc] at h
    rw [if_neg c4]
    exact h

/-- ryu's choice on exact ties reads back as the canonical datum: it is `shortest`'s pair or the
explicitly checked lower neighbour -/
theorem shortestEven_ok (m : ℕ) (e : ℤ) :
    round (decVal (shortestEven m e).1 (shortestEven m e).2) false = canon m e := by
  unfold shortestEven
  dsimp only
  split_ifs with h
  · exact h.2.1
  · exact shortest_ok m e

/-- stripping trailing zeros of the digit block does not change the decimal -/
theorem stripZeros_decVal : ∀ (fuel D : ℕ) (k : ℤ),
    decVal (stripZeros fuel D k).1 (stripZeros fuel D k).2 = decVal D k := by
  intro fuel
  induction fuel with
  | zero => intro D k; rfl
  | succ fuel ih =>
    intro D k
    unfold stripZeros
    split_ifs with h
    · have := decVal_mul_pow (D / 10) 1 k
      rw [pow_one, Nat.div_mul_cancel (Nat.dvd_of_mod_eq_zero h.2), Nat.cast_one, add_comm] at this
      rw [ih, this]
    · rfl

/-- the digits laid out read back as the canonical datum of `|x|`; for a well-formed non-zero `x`
they are not zero -/
theorem ryuDigits_ok (m : ℕ) (e : ℤ) :
    round (decVal (ryuDigits m e).1 (ryuDigits m e).2) false = canon m e ∧
    (WfPos m e → (ryuDigits m e).1 ≠ 0) := by
  unfold ryuDigits
  by_cases hm : m = 0
  · rw [if_pos hm, hm]
    exact ⟨by rw [decVal_zero, canon_eq]; simp, fun w => absurd rfl w.1⟩
  rw [if_neg hm]
  have hv := stripZeros_decVal (natDigits (shortestEven m e).1).length (shortestEven m e).1
    (shortestEven m e).2
  refine ⟨by rw [hv, shortestEven_ok], fun w h0 => ?_⟩
  rw [h0, decVal_zero] at hv
  exact (readback_range w (decVal_nonneg _ _) (shortestEven_ok m e)).1.ne hv

/-! ### (a) bit-exact round trip -/

/-- finite data (what `serde_json` can write as a number) -/
def Finite : F64 → Prop
  | .fin _ _ _ => True
  | _ => False

instance : DecidablePred Finite := fun x => by
  cases x <;> unfold Finite <;> infer_instance

theorem Finite.eq_fin {x : F64} (h : Finite x) : ∃ s m e, x = .fin s m e := by
  cases x with
  | fin s m e => exact ⟨s, m, e, rfl⟩
  | inf s => exact False.elim h
  | nan => exact False.elim h

theorem jsonText_sign (s : Bool) (m : ℕ) (e : ℤ) :
    jsonText (.fin s m e) = signText s ++ jsonAbs m e := by cases s <;> rfl

/-- (a) ROUND TRIP.  The JSON number text of every finite canonical datum — every finite bit
pattern: zeros of both signs, subnormals, normal numbers — reads back (exactly rounding reader) as
the identical datum. -/
theorem jsonText_roundtrip (x : F64) (hc : Canonical x) (hf : Finite x) :
    parseJsonNum (jsonText x) = some x := by
  obtain ⟨s, m, e, rfl⟩ := hf.eq_fin
  rw [jsonText_sign, (jsonAbs_lays m e).denotes.sign s, round_signed hc (ryuDigits_ok m e).1]

/-- every finite bit pattern: write as a JSON number, read back, same bits -/
theorem jsonText_roundtrip_bits (b : ℕ) (hf : Finite (ofBits b)) :
    parseJsonNum (jsonText (ofBits b)) = some (ofBits b) :=
  jsonText_roundtrip _ (ofBits_canonical b) hf

/-- a bit pattern is finite iff its exponent field is not all ones -/
theorem ofBits_finite (b : ℕ) : Finite (ofBits b) ↔ b / two52 % 2048 ≠ 2047 := by
  unfold ofBits
  dsimp only
  by_cases h2 : b / two52 % 2048 = 2047
  · -- exponent field all ones: an infinity or NaN
    rw [if_neg (by rw [h2]; decide), if_pos h2]
    exact iff_of_false (by split <;> exact id) (not_not.mpr h2)
  · exact iff_of_true (by split <;> trivial) h2

/-! ### (b) injectivity; finite values are never `null` -/

/-- (b) two finite canonical doubles with the same JSON number text are identical (same bits:
`0.0` and `-0.0` have different texts) -/
theorem jsonText_injective (x y : F64) (hx : Canonical x) (hy : Canonical y) (fx : Finite x)
    (fy : Finite y) (h : jsonText x = jsonText y) : x = y := by
  have h1 := jsonText_roundtrip x hx fx
  have h2 := jsonText_roundtrip y hy fy
  rw [h, h2] at h1
  exact (Option.some.inj h1).symm

/-- `null` is not a number for the reader -/
theorem parseJsonNum_null : parseJsonNum nullText = none := by decide

/-- non-finite values are written as `null` … -/
theorem jsonText_nonfinite (x : F64) (hf : ¬ Finite x) : jsonText x = nullText := by
  cases x with
  | fin s m e => exact absurd trivial hf
  | inf s => rfl
  | nan => rfl

/-- (b) … and the text of a finite value (ANY mantissa and exponent) is never `null`: it starts with
a digit or with `-` -/
theorem jsonText_ne_null (x : F64) (hf : Finite x) : jsonText x ≠ nullText := by
  obtain ⟨s, m, e, rfl⟩ := hf.eq_fin
  rw [jsonText_sign]
  exact (jsonAbs_lays m e).ne_null (signText_cases s)

/-- a value is written as a number iff it is finite -/
theorem jsonText_eq_null_iff (x : F64) : jsonText x = nullText ↔ ¬ Finite x :=
  ⟨fun h hf => jsonText_ne_null x hf h, jsonText_nonfinite x⟩

/-! ### (c) the binary64 instance of C17 -/

/-- the binary64 amount leaf of the serde data model: a JSON number with the text of `ryu` -/
def serF64 (x : F64) : JL := .num (jsonText x)

/-- reading the amount leaf: a JSON number, exactly rounded (a string is not an `f64`) -/
def deF64 : JL → Option F64
  | .num t => parseJsonNum t
  | .str _ => none

/-- (c) binary64 back-end: the JSON number written for a finite double reads back as the identical
double (same bits) -/
theorem f64_amount_roundtrip (x : F64) (hc : Canonical x) (hf : Finite x) :
    deF64 (serF64 x) = some x := jsonText_roundtrip x hc hf

/-- … and NaN and the infinities do NOT round-trip: they are written as `null`, which is not a
number (`serde_json` refuses to read `null` as an `f64`) -/
theorem f64_amount_nonfinite (x : F64) (hf : ¬ Finite x) : deF64 (serF64 x) = none := by
  show parseJsonNum (jsonText x) = none
  rw [jsonText_nonfinite x hf]; exact parseJsonNum_null

/-- `C17.de_ser` with the round-trip hypothesis only at the value that is serialised (the codec of
binary64 round-trips on finite values only) -/
theorem de_ser_at {A : Type} (kind : QtyKind) (units : List UnitDef)
    (hn : (units.map (·.ident)).Nodup) (hk : kind = .single → units.length = 1)
    (serAmt : A → JL) (deAmt : JL → Option A) (a : A) (hrt : deAmt (serAmt a) = some a)
    (i : Nat) (u : UnitDef) (hi : units[i]? = some u) :
    deQty kind units deAmt (serQty kind (serAmt a) u) = some (a, i) :=
  C17.de_ser_of kind units hn hk serAmt deAmt a hrt i u hi

theorem ser_injective_at {A : Type} (kind : QtyKind) (units : List UnitDef)
    (hn : (units.map (·.ident)).Nodup) (hk : kind = .single → units.length = 1)
    (serAmt : A → JL) (deAmt : JL → Option A) (a b : A) (hra : deAmt (serAmt a) = some a)
    (hrb : deAmt (serAmt b) = some b) (i j : Nat) (u v : UnitDef) (hi : units[i]? = some u)
    (hj : units[j]? = some v) (h : serQty kind (serAmt a) u = serQty kind (serAmt b) v) :
    a = b ∧ i = j :=
  C17.ser_injective_of kind units hn hk serAmt deAmt a b hra hrb i j u v hi hj h

/-- (c) C17 for the binary64 back-end: serialising any quantity with a finite amount and
deserialising the result gives back the identical unit and the bit-identical amount -/
theorem f64_de_ser (kind : QtyKind) (units : List UnitDef) (hn : (units.map (·.ident)).Nodup)
    (hk : kind = .single → units.length = 1) (x : F64) (hc : Canonical x) (hf : Finite x)
    (i : Nat) (u : UnitDef) (hi : units[i]? = some u) :
    deQty kind units deF64 (serQty kind (serF64 x) u) = some (x, i) :=
  de_ser_at kind units hn hk serF64 deF64 x (f64_amount_roundtrip x hc hf) i u hi

/-- (c) quantities with finite amounts that differ in unit or amount (in a single bit, the sign of
zero included) have different serialisations -/
theorem f64_ser_injective (kind : QtyKind) (units : List UnitDef)
    (hn : (units.map (·.ident)).Nodup) (hk : kind = .single → units.length = 1)
    (x y : F64) (hx : Canonical x) (hy : Canonical y) (fx : Finite x) (fy : Finite y)
    (i j : Nat) (u v : UnitDef) (hi : units[i]? = some u) (hj : units[j]? = some v)
    (h : serQty kind (serF64 x) u = serQty kind (serF64 y) v) : x = y ∧ i = j :=
  ser_injective_at kind units hn hk serF64 deF64 x y (f64_amount_roundtrip x hx fx)
    (f64_amount_roundtrip y hy fy) i j u v hi hj h

/-- a quantity with a NaN or infinite amount does not deserialise (`"amount":null`) -/
theorem f64_de_ser_nonfinite (kind : QtyKind) (units : List UnitDef) (x : F64) (hf : ¬ Finite x)
    (u : UnitDef) : deQty kind units deF64 (serQty kind (serF64 x) u) = none := by
  have h := f64_amount_nonfinite x hf
  cases kind <;> simp [serQty, deQty, h]

/-! The generic theorems `C17.de_ser` / `C17.ser_injective` themselves (round trip for EVERY value
of the amount type) are instantiated with the type of finite doubles: -/

instance : DecidablePred Canonical := fun x => by
  cases x <;> unfold Canonical <;> infer_instance

/-- the finite binary64 values (every finite bit pattern) -/
def Fin64 : Type := { x : F64 // Canonical x ∧ Finite x }

def serFin (a : Fin64) : JL := serF64 a.1

def deFin (l : JL) : Option Fin64 :=
  (deF64 l).bind (fun y => if h : Canonical y ∧ Finite y then some ⟨y, h⟩ else none)

theorem fin64_amount_roundtrip (a : Fin64) : deFin (serFin a) = some a := by
  obtain ⟨x, hx⟩ := a
  unfold deFin serFin
  rw [f64_amount_roundtrip x hx.1 hx.2]
  simp [hx]

/-- `C17.de_ser` at the binary64 codec -/
theorem fin64_de_ser (kind : QtyKind) (units : List UnitDef) (hn : (units.map (·.ident)).Nodup)
    (hk : kind = .single → units.length = 1) (a : Fin64) (i : Nat) (u : UnitDef)
    (hi : units[i]? = some u) :
    deQty kind units deFin (serQty kind (serFin a) u) = some (a, i) :=
  C17.de_ser kind units hn hk serFin deFin fin64_amount_roundtrip a i u hi

/-- `C17.ser_injective` at the binary64 codec -/
theorem fin64_ser_injective (kind : QtyKind) (units : List UnitDef)
    (hn : (units.map (·.ident)).Nodup) (hk : kind = .single → units.length = 1)
    (a b : Fin64) (i j : Nat) (u v : UnitDef) (hi : units[i]? = some u) (hj : units[j]? = some v)
    (h : serQty kind (serFin a) u = serQty kind (serFin b) v) : a = b ∧ i = j :=
  C17.ser_injective kind units hn hk serFin deFin fin64_amount_roundtrip a b i j u v hi hj h

/-! ### ryu's digits are as good as `shortest`'s -/

/-- the digits `serde_json` writes lie on the same (coarsest possible, `C15F64.shortest_coarsest`)
grid as the digits `Display` prints and are exactly as close to `|x|`
(`C15F64.shortest_closest`); they differ from them only on an exact tie, where they are even -/
theorem shortestEven_spec (m : ℕ) (e : ℤ) :
    (shortestEven m e).2 = (shortest m e).2 ∧
    |decVal (shortestEven m e).1 (shortestEven m e).2 - (m : ℚ) * 2 ^ e|
      = |decVal (shortest m e).1 (shortest m e).2 - (m : ℚ) * 2 ^ e| ∧
    (shortestEven m e ≠ shortest m e →
      (shortestEven m e).1 % 2 = 0 ∧ (shortestEven m e).1 + 1 = (shortest m e).1) := by
  unfold shortestEven
  dsimp only
  split_ifs with h
  · obtain ⟨h1, -, h3⟩ := h
    rw [pow2_eq, Int.cast_natCast] at h3
    refine ⟨rfl, ?_, fun _ => ?_⟩
    · -- the tie: the two candidates lie symmetrically about `|x|`
      rw [← neg_sub ((m : ℚ) * 2 ^ e), ← h3, abs_neg]
    · dsimp only
      omega
  · exact ⟨rfl, rfl, fun hne => absurd rfl hne⟩

/-! ### (d) shape: the JSON number grammar -/

/-- the number grammar of RFC 8259: `[-] int [. digits] [(e|E) [+|-] digits]`, `int` without
superfluous leading zeros -/
def JsonNumber (t : Text) : Prop :=
  ∃ sg ip fr ex : Text, t = sg ++ ip ++ fr ++ ex ∧
    (sg = [] ∨ sg = [45]) ∧
    ip ≠ [] ∧ ip.all Case.isDigit = true ∧ (ip = [48] ∨ ip.head? ≠ some 48) ∧
    (fr = [] ∨ ∃ fp, fp ≠ [] ∧ fp.all Case.isDigit = true ∧ fr = 46 :: fp) ∧
    (ex = [] ∨ ∃ mk es ed, (mk = 101 ∨ mk = 69) ∧ (es = [] ∨ es = [43] ∨ es = [45]) ∧ ed ≠ [] ∧
      ed.all Case.isDigit = true ∧ ex = mk :: (es ++ ed))

theorem intText_shape (x : ℤ) : ∃ es ed, (es = [] ∨ es = [43] ∨ es = [45]) ∧ ed ≠ [] ∧
    ed.all Case.isDigit = true ∧ intText x = es ++ ed := by
  unfold intText
  split
  · exact ⟨[45], _, Or.inr (Or.inr rfl), natDigits_ne_nil _, natDigits_all _, rfl⟩
  · exact ⟨[43], _, Or.inr (Or.inl rfl), natDigits_ne_nil _, natDigits_all _, rfl⟩

/-- a text `ip[.fp][e±x]` whose integer part has no superfluous leading zero is a JSON number, with
or without a minus in front -/
theorem jnum_shape (sg ip fp : Text) (x : Option ℤ) (hsg : sg = [] ∨ sg = [45]) (hne : ip ≠ [])
    (hi : ip.all Case.isDigit = true) (hf : fp.all Case.isDigit = true)
    (hz : ip = [48] ∨ ip.head? ≠ some 48) : JsonNumber (sg ++ jnum ip fp x) := by
  refine ⟨sg, ip, if fp = [] then [] else 46 :: fp, expText x, by simp [jnum, pointText], hsg, hne, hi,
    hz, ?_, ?_⟩
  · by_cases h : fp = []
    · exact Or.inl (if_pos h)
    · exact Or.inr ⟨fp, h, hf, if_neg h⟩
  · cases x with
    | none => exact Or.inl rfl
    | some x =>
      obtain ⟨es, ed, h1, h2, h3, h4⟩ := intText_shape x
      exact Or.inr ⟨101, es, ed, Or.inl rfl, h1, h2, h3, by rw [expText, h4]⟩

theorem Lays.shape {D : ℕ} {k : ℤ} {t : Text} (h : Lays D k t) (hD : D ≠ 0) {sg : Text}
    (hsg : sg = [] ∨ sg = [45]) : JsonNumber (sg ++ t) := by
  obtain ⟨ip, fp, x, a, rfl, h2, h3, h4, -, -, h6⟩ := h
  exact jnum_shape sg ip fp x hsg h2 h3 h4 (h6 hD)

/-- (d) SHAPE.  The text of every finite canonical double is a JSON number: optional `-`, an
integer part without superfluous leading zeros, optionally `.` and at least one digit, optionally
`e`, a sign and at least one digit. -/
theorem jsonText_shape (x : F64) (hc : Canonical x) (hf : Finite x) : JsonNumber (jsonText x) := by
  obtain ⟨s, m, e, rfl⟩ := hf.eq_fin
  obtain ⟨hm, h1, h2, -⟩ := canonical_iff.mp hc
  rw [jsonText_sign]
  by_cases hm0 : m = 0
  · subst hm0
    exact jnum_shape _ [48] [48] none (signText_cases s) (List.cons_ne_nil _ _) rfl rfl (Or.inl rfl)
  · exact (jsonAbs_lays m e).shape ((ryuDigits_ok m e).2 ⟨hm0, hm, h1, h2⟩) (signText_cases s)

/-- a JSON number is not `null` -/
theorem JsonNumber.ne_null {t : Text} (h : JsonNumber t) : t ≠ nullText := by
  obtain ⟨sg, ip, fr, ex, rfl, hsg, hne, hd, -, -, -⟩ := h
  rw [List.append_assoc (sg ++ ip)]
  exact ne_null_of_digit hsg hne hd

/-! ### tests (kernel-checked evaluations on concrete values, not theorems of the model) -/

/-- test: `0.1` -/
example : jsonText (ofBits 0x3FB999999999999A) = [48, 46, 49] := by decide +kernel
/-- test: `1.0` -/
example : jsonText (ofBits 0x3FF0000000000000) = [49, 46, 48] := by decide +kernel
/-- test: `1e21` is written `1e+21` (always-signed exponent) -/
example : jsonText (ofBits 0x444B1AE4D6E2EF50) = [49, 101, 43, 50, 49] := by decide +kernel
/-- test: `1e-7` is written `1e-7` -/
example : jsonText (ofBits 0x3E7AD7F29ABCAF48) = [49, 101, 45, 55] := by decide +kernel
/-- test: `123456789012345680000.0` is written `1.2345678901234568e+20` -/
example : jsonText (ofBits 0x441AC53A7E04BCDA)
    = [49, 46, 50, 51, 52, 53, 54, 55, 56, 57, 48, 49, 50, 51, 52, 53, 54, 56, 101, 43, 50, 48] := by
  decide +kernel
/-- test: the exact tie `669438001820031.25` is written `669438001820031.2` (even digit; `Display`
prints `…31.3`) -/
example : jsonText (ofBits 0x430306cd72618bfa)
    = [54, 54, 57, 52, 51, 56, 48, 48, 49, 56, 50, 48, 48, 51, 49, 46, 50] := by decide +kernel
/-- test: `-0.0` -/
example : jsonText (ofBits 0x8000000000000000) = [45, 48, 46, 48] := by decide +kernel
/-- test: `5e-324` -/
example : jsonText (ofBits 1) = [53, 101, 45, 51, 50, 52] := by decide +kernel
/-- test: `f64::MAX` is written `1.7976931348623157e+308` -/
example : jsonText (ofBits 0x7FEFFFFFFFFFFFFF)
    = [49, 46, 55, 57, 55, 54, 57, 51, 49, 51, 52, 56, 54, 50, 51, 49, 53, 55, 101, 43, 51, 48, 56] := by
  decide +kernel
/-- tests: the layout thresholds `1e-5` ↦ `0.00001`, `1e16` ↦ `1e+16` -/
example : jsonText (ofBits 0x3EE4F8B588E368F1) = [48, 46, 48, 48, 48, 48, 49] := by decide +kernel
example : jsonText (ofBits 0x4341C37937E08000) = [49, 101, 43, 49, 54] := by decide +kernel
/-- tests: infinities and NaN are written `null` -/
example : jsonText (ofBits 0x7FF0000000000000) = nullText := by decide +kernel
example : jsonText (ofBits 0x7FF8000000000000) = nullText := by decide +kernel
/-- tests: the reader -/
example : parseJsonNum [48, 46, 49] = some (ofBits 0x3FB999999999999A) := by decide +kernel
example : parseJsonNum [49, 101, 43, 50, 49] = some (ofBits 0x444B1AE4D6E2EF50) := by decide +kernel
example : parseJsonNum [49, 69, 50, 49] = some (ofBits 0x444B1AE4D6E2EF50) := by decide +kernel
example : parseJsonNum [45, 48, 46, 48] = some (ofBits 0x8000000000000000) := by decide +kernel
example : parseJsonNum [53, 101, 45, 51, 50, 52] = some (ofBits 1) := by decide +kernel
example : parseJsonNum [49, 101] = none := by decide +kernel
example : parseJsonNum [49, 46] = none := by decide +kernel
example : parseJsonNum [45] = none := by decide +kernel
/-- test (non-vacuity of (c)): `{"amount":0.1,"unit":"M"}` -/
example : render (serQty .withRef (serF64 (ofBits 0x3FB999999999999A))
      { ident := [77], name := [77], symbol := [109], pfx := none, scale := none, doc := none })
    = [123, 34, 97, 109, 111, 117, 110, 116, 34, 58, 48, 46, 49, 44, 34, 117, 110, 105, 116, 34, 58,
       34, 77, 34, 125] := by
  decide +kernel

end Qty.C17F64
