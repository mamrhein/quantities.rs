import QtyModel.Props.C18
import QtyModel.Props.Bridge2
import QtyModel.Props.Bridge
import QtyModel.Props.C04
import QtyModel.Lemmas.Res
import QtyModel.Props.C05
import QtyModel.Props.C10
import QtyModel.Props.C09
import QtyModel.Props.C13
import QtyModel.Props.C01
import QtyModel.Props.C03
import QtyModel.Lemmas.DecLaws
import QtyModel.Lemmas.F64Laws
/-
  Property C18 ("totality") end to end for the types the macro generates: `Props/C18` composed with
  `Props/Bridge`, `Bridge2`.  Binary64: no hypothesis on the table is left.  Decimal: only the
  property's range condition on the magnitudes is left.  The file opens with the three predicates
  the statements are about: `Generated R T`, `GeneratedDec T sc`, `C13.GeneratedF64 T`.

  `LitsPositive d` cannot be dropped in the decimal part: `dec_convert_needs_positive_literals` is
  a kernel-checked witness (a unit of scale `0.0` is accepted by the macro; converting to it panics
  although `convSafe` holds).  The decimal result type `AmountT` (e.g. `Frequency * Duration`),
  which `C04.dmul_mag` excludes (`fitIdentity = none`), is covered by `derivedOp_total_scaled`.
  The last sentence of the property (types WITHOUT reference unit: only the documented unit-mismatch
  panic) is `C10.panic_cases`, `f64_only_documented_panic_generated`.

  Formatting (`Fmt.qtyFmt`, `Fmt.rateFmt`, `Fmt.decAbsText`, …) is modelled by TOTAL functions into
  `Text` (no `Res`), so "formatting does not panic" holds by construction of the model and there is
  nothing to state.
-/
namespace Qty.C18
open Qty.MacroFront Qty.Bridge Qty.C09

/-- `T` is a run-time table of the generated code for the amount type `R`: the table of an
accepted definition with reference unit, or the dimensionless amount `AmountT` (which the derived
operators accept as an operand or result type) -/
inductive Generated {A : Type} (R : Arith A) : RTable A → Prop
  | ofDef (it : RawItem) (d : QtyDef) (h : expand it = .ok d) (hk : d.kind = .withRef)
      (T : RTable A) (hT : RTable.ofDef R d = some T) : Generated R T
  | amount : Generated R (RTable.amount R)

theorem Generated.ref_mem {A : Type} {R : Arith A} {T : RTable A} (hg : Generated R T) :
    (T.qt R).ref ∈ (T.qt R).units := by
  cases hg with
  | ofDef it d h hk _ hT => exact ofDef_ref_mem h hk hT
  | amount => exact List.mem_range.mpr Nat.one_pos

theorem Generated.kind {A : Type} {R : Arith A} {T : RTable A} (hg : Generated R T) :
    T.kind = .withRef := by
  cases hg with
  | ofDef it d h hk _ hT => exact ofDef_kind hk hT
  | amount => rfl

theorem Generated.of_tableIn {A : Type} {R : Arith A} {items : List RawItem}
    {T : RTable A} (hT : TableIn R items T) : Generated R T := by
  cases hT with
  | ofDef it _ d h hk _ hT => exact .ofDef it d h hk T hT
  | amount => exact .amount

/-- `T` is a DECIMAL table of the generated code and `sc` are the exact values of its unit scales:
the table of an accepted definition with reference unit and positive scale literals (scales
`litVal d`, the exact literal values), or the dimensionless `AmountT` (scale one) -/
inductive GeneratedDec : RTable Dec → (Nat → Rat) → Prop
  | ofDef (it : RawItem) (d : QtyDef) (h : expand it = .ok d) (hk : d.kind = .withRef)
      (T : RTable Dec) (hT : RTable.ofDef Dec.arith d = some T) (hp : LitsPositive d = true) :
      GeneratedDec T (litVal d)
  | amount : GeneratedDec (RTable.amount Dec.arith) (fun _ => 1)

theorem GeneratedDec.generated {T : RTable Dec} {sc : Nat → Rat} (hg : GeneratedDec T sc) :
    Generated Dec.arith T := by
  cases hg with
  | ofDef it d h hk _ hT hp => exact .ofDef it d h hk T hT
  | amount => exact .amount

theorem GeneratedDec.scaled {T : RTable Dec} {sc : Nat → Rat} (hg : GeneratedDec T sc) :
    Scaled Dec.arith T sc := by
  cases hg with
  | ofDef it d h hk _ hT hp => exact scaled_dec hk hT hp
  | amount => exact scaled_amount Dec.laws

end Qty.C18

namespace Qty.C13
open Qty.MacroFront Qty.Bridge

/-- `T` is a BINARY64 table of the generated code whose scale literals lie in `[2^-1073, 2^1023)`
(true of the whole catalogue, `Bridge.catalogue_def`), or the dimensionless `AmountT`;
its exact scales are `Bridge.f64Sc T`, the values of the rounded literals -/
inductive GeneratedF64 : RTable F64 → Prop
  | ofDef (it : RawItem) (d : QtyDef) (h : expand it = .ok d) (hk : d.kind = .withRef)
      (T : RTable F64) (hT : RTable.ofDef F64.arith d = some T) (hp : LitsNormalF64 d = true) :
      GeneratedF64 T
  | amount : GeneratedF64 (RTable.amount F64.arith)

theorem GeneratedF64.generated {T : RTable F64} (hg : GeneratedF64 T) :
    C18.Generated F64.arith T := by
  cases hg with
  | ofDef it d h hk _ hT hp => exact .ofDef it d h hk T hT
  | amount => exact .amount

theorem GeneratedF64.scaled {T : RTable F64} (hg : GeneratedF64 T) :
    Scaled F64.arith T (f64Sc T) := by
  cases hg with
  | ofDef it d h hk _ hT hp => exact scaled_f64 hk hT hp
  | amount =>
    have h1 := scaled_amount (R := F64.arith) F64.laws
    have e {u} (hu : u < (RTable.amount F64.arith).n) : f64Sc (RTable.amount F64.arith) u = 1 :=
      f64Val_of_val (h1.val hu)
    exact ⟨rfl, fun hu => e hu ▸ h1.val hu, fun hu => e hu ▸ one_pos⟩

/-- `approxRateApply_withRef` over a table with exact positive scales `sc` -/
theorem approxRateApply_scaled {A : Type} {R : Arith A} {M : ErrModel} {T : RTable A}
    {sc : Nat → Rat} (hs : Scaled R T sc) (qv : Rat) {qu u : Nat} (dv mv : Rat)
    (hqu : qu < T.n) (hu : u < T.n) :
    approxRateApply R M T (Approx.exact qv) qu u (Approx.exact dv) (Approx.exact mv)
      = .ok (rateApproxM M sc qv qu u dv mv) :=
  approxRateApply_withRef R hs.kind qv dv mv (hs.val hqu) (hs.val hu)

end Qty.C13

namespace Qty.C18
open Qty.MacroFront Qty.Bridge Qty.C09

/-- `k * q`, `q * k`, `q / k` (no table is involved) -/
theorem f64_scalar_total_generated (k : F64) (q : Q F64 Nat) :
    (∃ r, smul F64.arith k q = .ok r) ∧ (∃ r, muls F64.arith q k = .ok r) ∧
    (∃ r, sdiv F64.arith q k = .ok r) :=
  f64_scalar_total k q

/-- the generated `impl Mul<R> for L { type Output = O }`: operands of ANY two tables (in binary64
nothing at all is needed of the operand tables), result type generated -/
theorem f64_dmul_total_generated {U V : Type} [DecidableEq U] [DecidableEq V]
    (TL : QT F64 U) (TR : QT F64 V) {TO : RTable F64} (hO : Generated F64.arith TO)
    (l : Q F64 U) (r : Q F64 V) :
    ∃ res, dmul F64.arith TL TR (TO.qt F64.arith) l r = .ok res :=
  f64_dmul_total TL TR _ hO.ref_mem l r

/-- the generated `impl Div<R> for L { type Output = O }` -/
theorem f64_ddiv_total_generated {U V : Type} [DecidableEq U] [DecidableEq V]
    (TL : QT F64 U) (TR : QT F64 V) {TO : RTable F64} (hO : Generated F64.arith TO)
    (l : Q F64 U) (r : Q F64 V) :
    ∃ res, ddiv F64.arith TL TR (TO.qt F64.arith) l r = .ok res :=
  f64_ddiv_total TL TR _ hO.ref_mem l r

/-- every modelled operation on the quantity type with table `T` returns, for all amounts (zero,
subnormal, infinite, NaN), all unit indices, all scalars and all rates -/
def F64Total (T : RTable F64) : Prop :=
  ∀ (a b : Q F64 Nat) (u : Nat) (k : F64) (rt : Rate F64),
    (∃ r, convert F64.arith (T.qt F64.arith) a u = .ok r) ∧
    (∃ r, hrEq F64.arith (T.qt F64.arith) a b = .ok r) ∧
    (∃ r, hrPcmp F64.arith (T.qt F64.arith) a b = .ok r) ∧
    (∃ r, hrAdd F64.arith (T.qt F64.arith) a b = .ok r) ∧
    (∃ r, hrSub F64.arith (T.qt F64.arith) a b = .ok r) ∧
    (∃ r, hrDiv F64.arith (T.qt F64.arith) a b = .ok r) ∧
    (∃ r, fit F64.arith (T.qt F64.arith) k = .ok r) ∧
    (∃ r, smul F64.arith k a = .ok r) ∧ (∃ r, muls F64.arith a k = .ok r) ∧
    (∃ r, sdiv F64.arith a k = .ok r) ∧
    (∃ r, Rate.mulQ F64.arith T rt a = .ok r) ∧ (∃ r, Rate.divQ F64.arith T a rt = .ok r)

/-- every modelled operation on a generated binary64 quantity type returns: the theorems
`C18.f64_*_total` hold of any table; `_fit` needs `ref ∈ units`, the rates need the kind -/
theorem f64_total_generated {T : RTable F64} (hg : Generated F64.arith T) : F64Total T :=
  fun a b u k rt =>
  ⟨f64_convert_total _ a u, f64_eq_total _ a b, f64_pcmp_total _ a b, f64_add_total _ a b,
   f64_sub_total _ a b, f64_div_total _ a b, f64_fit_total _ hg.ref_mem k,
   (f64_scalar_total k a).1, (f64_scalar_total k a).2.1, (f64_scalar_total k a).2.2,
   (f64_rate_total T hg.kind rt a).1, (f64_rate_total T hg.kind rt a).2⟩

/-- `C13.rateApproxM` at the decimal rounding model, written out (`rateApprox_eq` is `rfl`): the
statement of `catalogue_dec_rate_total` names it, so that it can be read without the general `M` -/
def rateApprox (sc : Nat → Rat) (qv : Rat) (qu u : Nat) (dv mv : Rat) : Option Approx := do
  let x ← (if qu == u then Approx.div ErrModel.dec (Approx.exact qv) (Approx.exact 1)
    else do
      let ratio ← Approx.div ErrModel.dec (Approx.exact (sc u)) (Approx.exact (sc qu))
      Approx.div ErrModel.dec (Approx.exact qv)
        (Approx.mul ErrModel.dec ratio (Approx.exact 1)))
  let amnt ← Approx.div ErrModel.dec x (Approx.exact dv)
  pure (Approx.mul ErrModel.dec amnt (Approx.exact mv))

theorem rateApprox_eq (sc : Nat → Rat) (qv : Rat) (qu u : Nat) (dv mv : Rat) :
    rateApprox sc qv qu u dv mv = C13.rateApproxM ErrModel.dec sc qv qu u dv mv := rfl

section decScaled
variable {T : RTable Dec} {sc : Nat → Rat} (hs : Scaled Dec.arith T sc)
include hs

/-- conversion on a decimal table with exact positive scales `sc`, in the LITERAL domain of
the property text: the ratio of the two unit scales, the amount and the converted amount have
absolute value at most `1e17` (the lower end `1e-15` of the property's domain is not needed for a
conversion).  Left besides: the two units are units of the table, the value `a` of the amount. -/
theorem dec_convert_total_scaled (q : Q Dec Nat) (u : Nat) (hq : q.unit < T.n)
    (hu : u < T.n) (a : Rat) (ha : Dec.arith.val q.amount = some a)
    (hρ : |sc q.unit / sc u| ≤ 10 ^ 17) (hav : |a| ≤ 10 ^ 17)
    (hρa : |sc q.unit / sc u * a| ≤ 10 ^ 17) :
    ∃ r, convert Dec.arith (T.qt Dec.arith) q u = .ok r := by
  by_cases hne : q.unit = u
  · subst hne
    exact ⟨_, C01.convert_same_unit _ _ q⟩
  · exact dec_convert_total _ q u _ _ a hne (hs.val hq) (hs.val hu) (hs.pos hu).ne' ha hρ hav hρa

/-- `==` and `partial_cmp`: both amounts, both scale ratios and both converted amounts have
absolute value at most `1e17` -/
theorem dec_cmp_total_scaled (a b : Q Dec Nat) (hau : a.unit < T.n)
    (hbu : b.unit < T.n) (x y : Rat)
    (hx : Dec.arith.val a.amount = some x) (hy : Dec.arith.val b.amount = some y)
    (hxv : |x| ≤ 10 ^ 17) (hyv : |y| ≤ 10 ^ 17)
    (hρ : |sc b.unit / sc a.unit| ≤ 10 ^ 17) (hρ' : |sc a.unit / sc b.unit| ≤ 10 ^ 17)
    (hρy : |sc b.unit / sc a.unit * y| ≤ 10 ^ 17) (hρx : |sc a.unit / sc b.unit * x| ≤ 10 ^ 17) :
    (∃ e, hrEq Dec.arith (T.qt Dec.arith) a b = .ok e) ∧
    (∃ p, hrPcmp Dec.arith (T.qt Dec.arith) a b = .ok p) :=
  dec_cmp_total (T.qt Dec.arith) a b _ _ x y (hs.val hau) (hs.val hbu) (hs.pos hau).ne'
    (hs.pos hbu).ne' hx hy (convSafe_of_in_range _ _ y hρ hyv hρy)
    (convSafe_of_in_range _ _ x hρ' hxv hρx)

/-- sums and differences (same unit or not): both amounts, the scale ratio and the right
operand expressed in the left operand's unit of absolute value at most `1e17` -/
theorem dec_addsub_total_scaled (isSub : Bool) (a b : Q Dec Nat)
    (hau : a.unit < T.n) (hbu : b.unit < T.n) (x y : Rat)
    (hx : Dec.arith.val a.amount = some x) (hy : Dec.arith.val b.amount = some y)
    (hxv : |x| ≤ 10 ^ 17) (hyv : |y| ≤ 10 ^ 17)
    (hρ : |sc b.unit / sc a.unit| ≤ 10 ^ 17) (hρy : |sc b.unit / sc a.unit * y| ≤ 10 ^ 17) :
    ∃ r, (if isSub then hrSub Dec.arith (T.qt Dec.arith) a b
      else hrAdd Dec.arith (T.qt Dec.arith) a b) = .ok r := by
  by_cases hne : b.unit = a.unit
  · have h19 : |(10 : ℚ) ^ 19| = 10 ^ 19 := abs_of_nonneg (by norm_num)
    have hsum : |x| + |y| ≤ |(10 : ℚ) ^ 19| := h19 ▸ (add_le_add hxv hyv).trans (by norm_num)
    obtain ⟨c, _, hc, _⟩ := Dec.laws.addsub_le isSub hx hy
      ((le_add_of_nonneg_right (abs_nonneg y)).trans hsum)
      ((le_add_of_nonneg_left (abs_nonneg x)).trans hsum)
      (by cases isSub
          · exact (abs_add_le x y).trans hsum
          · exact (abs_sub x y).trans hsum)
      ((Dec.safe_iff _).mpr h19.le)
    rw [hrAddSub_ite, hrAddSub_same_unit Dec.arith _ _ hne]
    exact Res.exists_ok_map _ ⟨c, hc⟩
  · exact dec_addsub_total (T.qt Dec.arith) isSub a b _ _ x y hne (hs.val hau) (hs.val hbu)
      (hs.pos hau).ne' hx hy (convSafe_of_in_range _ _ y hρ hyv hρy)
      (addsub_safe_of_in_range _ _ x y hxv hyv hρy)

/-- ratios of like quantities (same unit or not): scale ratio and divisor expressed in the
dividend's unit of absolute value between `1e-15` and `1e17`, divisor amount and quotient at most
`1e17` — here the LOWER end of the property's domain is used -/
theorem dec_div_total_scaled (a b : Q Dec Nat)
    (hau : a.unit < T.n) (hbu : b.unit < T.n) (x y : Rat)
    (hx : Dec.arith.val a.amount = some x) (hy : Dec.arith.val b.amount = some y)
    (hyv : |y| ≤ 10 ^ 17)
    (hρlo : 1 / 10 ^ 15 ≤ |sc b.unit / sc a.unit|) (hρ : |sc b.unit / sc a.unit| ≤ 10 ^ 17)
    (htlo : 1 / 10 ^ 15 ≤ |sc b.unit / sc a.unit * y|)
    (ht : |sc b.unit / sc a.unit * y| ≤ 10 ^ 17)
    (hq : |x / (sc b.unit / sc a.unit * y)| ≤ 10 ^ 17) :
    ∃ c, hrDiv Dec.arith (T.qt Dec.arith) a b = .ok c := by
  by_cases hne : b.unit = a.unit
  · rw [hne, div_self (hs.pos hau).ne', one_mul] at htlo hq
    have hy0 : y ≠ 0 := by
      rintro rfl
      norm_num at htlo
    obtain ⟨c, _, hc, _⟩ := Dec.laws.div_ok a.amount b.amount x y hx hy hy0
      ((Dec.safe_iff _).mpr (hq.trans (by norm_num)))
    exact ⟨c, by rw [C03.div_same_unit Dec.arith _ a b hne, hc]⟩
  · obtain ⟨h1, h2⟩ := div_safe_of_in_range (sc a.unit) (sc b.unit) x y hρlo htlo hq
    exact dec_div_total (T.qt Dec.arith) a b _ _ x y hne (hs.val hau) (hs.val hbu) (hs.pos hau).ne'
      hx hy (convSafe_of_in_range _ _ y hρ hyv ht) h1 h2

/-- both rate operators: what is left of `C18.dec_rate_total` is the range flag `w.ok` of the
propagated description, computed on the exact scales (`C13.rateApproxM ErrModel.dec sc`, which is
`rateApprox sc`), not on the run-time table -/
theorem dec_rate_total_scaled (r : Rate Dec) (q : Q Dec Nat) (hqu : q.unit < T.n)
    (hpu : r.perUnit < T.n) (htu : r.termUnit < T.n) (qv pmv tav : Rat) (w w' : Approx)
    (hq : Dec.arith.val q.amount = some qv) (hpm : Dec.arith.val r.perMultiple = some pmv)
    (hta : Dec.arith.val r.termAmount = some tav)
    (hw : C13.rateApproxM ErrModel.dec sc qv q.unit r.perUnit pmv tav = some w) (hok : w.ok = true)
    (hw' : C13.rateApproxM ErrModel.dec sc qv q.unit r.termUnit tav pmv = some w')
    (hok' : w'.ok = true) :
    (∃ res, Rate.mulQ Dec.arith T r q = .ok res) ∧ (∃ res, Rate.divQ Dec.arith T q r = .ok res) :=
  dec_rate_total T r q qv pmv tav w w' hq hpm hta
    (by rw [C13.approxRateApply_scaled hs qv pmv tav hqu hpu, hw]) hok
    (by rw [C13.approxRateApply_scaled hs qv tav pmv hqu htu, hw']) hok'

end decScaled

/-- a generated operator (`op` the amount type's `*` or `/`), operands of any tables, returns when
the range condition `Oracle.derivedSafe` holds for every unit of the result table, whose scales
are exact and positive; `hP`, `hS`: the operation on the two amounts and on the two unit scales
returns within the rounding error (`Laws.mul_le`, `Laws.div_le`).  `hI`, `hsc` of
`C04.derivedOp_mag` are discharged; for a result type whose `_fit` is the identity (`AmountT`, e.g.
`Frequency * Duration`), which that theorem excludes, both branches of the body are immediate. -/
theorem derivedOp_total_scaled {A U V : Type} [DecidableEq U] [DecidableEq V] {R : Arith A}
    {M : ErrModel} (L : Laws R M) (op : A → A → Res A) (TL : QT A U) (TR : QT A V)
    {TO : RTable A} {sc : Nat → Rat} (hs : Scaled R TO sc)
    (href : (TO.qt R).ref ∈ (TO.qt R).units) (l : Q A U) (r : Q A V) (pa ps : Rat)
    (hP : M.safe pa = true → ∃ p pv, op l.amount r.amount = .ok p ∧ R.val p = some pv ∧
      |pv - pa| ≤ M.E pa)
    (hS : M.safe ps = true → ∃ s sv, op (TL.scale l.unit) (TR.scale r.unit) = .ok s ∧
      R.val s = some sv ∧ |sv - ps| ≤ M.E ps)
    (hsafe : ∀ u, u < TO.n → Oracle.derivedSafe M pa ps (sc u) = true) :
    ∃ res, derivedOp R op TL TR (TO.qt R) l r = .ok res := by
  cases hI : (TO.qt R).fitIdentity with
  | none =>
    obtain ⟨res, _, h, _⟩ := C04.derivedOp_mag_pos R L op TL TR (TO.qt R) l r hP hS hI href sc
      hs.of_mem (fun u hu => hsafe u (List.mem_range.mp hu))
    exact ⟨res, h⟩
  | some mk =>
    have hsafe := hsafe _ (List.mem_range.mp href)
    obtain ⟨hs1, hs2⟩ := C04.safe_of_derivedSafe L.wf hsafe
    obtain ⟨s, sv, hsop, hsv, hse⟩ := hS hs2
    obtain ⟨p, pv, hpop, hpv, hpe⟩ := hP hs1
    obtain ⟨x, hx, -⟩ := C04.fitted_steps R L (TO.qt R) hpv hsv hpe hse
      (C04.safe_fitMax_of_derivedSafe hsafe)
    cases hf : unitFromScale R (TO.qt R) s with
    | some w => exact ⟨_, by rw [derivedOp_natural hsop hf, hpop]; rfl⟩
    | none =>
      exact ⟨mk x (TO.qt R).ref, by
        rw [derivedOp_fitted hsop hf, hpop, Res.ok_bind, hx, Res.ok_bind, fit, hI]⟩

/-- `_fit` on a table with exact positive scales that lists its reference unit (the `unwrap` is
safe): the one division `x / scale u` is in range when `x / s` is for every unit scale `s` -/
theorem fit_total_scaled {A : Type} {R : Arith A} {M : ErrModel} (L : Laws R M) {T : RTable A}
    {sc : Nat → Rat} (hs : Scaled R T sc) (href : (T.qt R).ref ∈ (T.qt R).units)
    (x : A) (xv : Rat) (hx : R.val x = some xv)
    (hsafe : ∀ u, u < T.n → M.safe (xv / sc u) = true) :
    ∃ r, fit R (T.qt R) x = .ok r := by
  refine C05.fit_ok_of_div R _ href x fun w hw => ?_
  have hw := eligible_lt R T w hw
  obtain ⟨c, _, hc, _⟩ := L.div_ok x _ xv _ hx (hs.val hw) (hs.pos hw).ne' (hsafe w hw)
  exact ⟨c, hc⟩

/-- `k * q`, `q * k`, `q / k`: in range when the exact product (quotient) is, divisor not
zero -/
theorem dec_scalar_total_generated (k : Dec) (q : Q Dec Nat) (kv a : Rat)
    (hk : Dec.arith.val k = some kv) (ha : Dec.arith.val q.amount = some a) :
    (ErrModel.dec.safe (kv * a) = true →
      (∃ r, smul Dec.arith k q = .ok r) ∧ (∃ r, muls Dec.arith q k = .ok r)) ∧
    (kv ≠ 0 → ErrModel.dec.safe (a / kv) = true → ∃ r, sdiv Dec.arith q k = .ok r) := by
  refine ⟨fun hs => ⟨?_, ?_⟩, fun h0 hs => ?_⟩
  · obtain ⟨c, _, hc, _⟩ := Dec.laws.mul_ok k q.amount kv a hk ha hs
    exact ⟨_, by rw [smul_eq, hc]; rfl⟩
  · obtain ⟨c, _, hc, _⟩ := Dec.laws.mul_ok q.amount k a kv ha hk (by rw [mul_comm]; exact hs)
    exact ⟨_, by rw [muls_eq, hc]; rfl⟩
  · obtain ⟨c, _, hc, _⟩ := Dec.laws.div_ok q.amount k a kv ha hk h0 hs
    exact ⟨_, by rw [sdiv_eq, hc]; rfl⟩

/-- in binary64 the amount type never panics, so for a generated type without reference unit the
unit mismatch is the ONLY panic, whatever the amounts -/
theorem f64_only_documented_panic_generated {U : Type} [DecidableEq U] (a b : Q F64 U) (p : Panic) :
    (nrAdd F64.arith a b = .error p → p = .unitMismatch ∧ a.unit ≠ b.unit) ∧
    (nrSub F64.arith a b = .error p → p = .unitMismatch ∧ a.unit ≠ b.unit) ∧
    (nrDiv F64.arith a b = .error p → p = .unitMismatch ∧ a.unit ≠ b.unit) := by
  obtain ⟨h1, h2, h3⟩ := C10.panic_cases F64.arith a b p
  -- the other case of `panic_cases`, a panic of the amount type's own operator, does not exist
  exact ⟨fun h => (h1 h).resolve_right fun hh => (nomatch hh.2),
    fun h => (h2 h).resolve_right fun hh => (nomatch hh.2),
    fun h => (h3 h).resolve_right fun hh => (nomatch hh.2)⟩

/-- `Bridge.crates_sub`, in this namespace -/
theorem crate_sub_all_f64 (items : List RawItem) (hc : items ∈ cratesF64) (it : RawItem)
    (hit : it ∈ items) : it ∈ allItems :=
  crates_sub items hc it hit

/-- every predefined quantity of the main and of the astronomical crate is accepted by the macro; if
it has a reference unit its binary64 table exists and is a `GeneratedF64` table (`LitsNormalF64` by
`Bridge.catalogue_expands`) -/
theorem catalogue_f64_table (it : RawItem) (hit : it ∈ Gen.Catalogue.items ++ Gen.Astro.items) :
    ∃ d, expand it = .ok d ∧ (d.kind = .withRef →
      ∃ T, RTable.ofDef F64.arith d = some T ∧ C13.GeneratedF64 T) := by
  obtain ⟨d, h, hd⟩ := catalogue_expands it (List.mem_append_left _ hit)
  obtain ⟨T, hT⟩ := hd.f64Table
  exact ⟨d, h, fun hk => ⟨T, hT, .ofDef it d h hk T hT hd.normal⟩⟩

/-- every predefined quantity of the main and of the astronomical crate is accepted by the macro;
if it has a reference unit its binary64 table exists, and every modelled operation on it returns
for all amounts (`F64Total`).  No hypothesis is left. -/
theorem catalogue_f64_total (it : RawItem) (hit : it ∈ Gen.Catalogue.items ++ Gen.Astro.items) :
    ∃ d, expand it = .ok d ∧ (d.kind = .withRef →
      ∃ T, RTable.ofDef F64.arith d = some T ∧ F64Total T) := by
  obtain ⟨d, h, hT⟩ := catalogue_f64_table it hit
  exact ⟨d, h, fun hk =>
    let ⟨T, hT, hg⟩ := hT hk
    ⟨T, hT, f64_total_generated hg.generated⟩⟩

set_option linter.unusedVariables false in
/-- the same for ANY item of the catalogue (synthetic definitions of the harness included) whose
table exists -/
theorem catalogue_f64_total' (it : RawItem) (hit : it ∈ allItems) (d : QtyDef)
    (h : expand it = .ok d) (hk : d.kind = .withRef)
    (T : RTable F64) (hT : RTable.ofDef F64.arith d = some T) : F64Total T :=
  f64_total_generated (.ofDef it d h hk T hT)

/-- the generated `impl Mul<R> for L { type Output = O }` never panics -/
def MulTotalF64 (TL TR TO : RTable F64) : Prop :=
  ∀ l r : Q F64 Nat, ∃ res,
    dmul F64.arith (TL.qt F64.arith) (TR.qt F64.arith) (TO.qt F64.arith) l r = .ok res

/-- the generated `impl Div<R> for L { type Output = O }` never panics -/
def DivTotalF64 (TL TR TO : RTable F64) : Prop :=
  ∀ l r : Q F64 Nat, ∃ res,
    ddiv F64.arith (TL.qt F64.arith) (TR.qt F64.arith) (TO.qt F64.arith) l r = .ok res

/-- for every predefined (or synthetic) quantity declared as a product `Q = L * R`, operand tables
looked up by name as the run-time driver does: the tables exist and ALL FOUR generated operators (`L
* R = Q`, `R * L = Q`, `Q / R = L`, `Q / L = R`) return for all operands. No hypothesis is left. -/
theorem catalogue_f64_dmul_total (items : List RawItem) (hc : items ∈ cratesF64)
    (it : RawItem) (hit : it ∈ items) (d : QtyDef) (h : expand it = .ok d) (ln rn : Text)
    (hder : d.derived = some ⟨ln, true, rn⟩) :
    ∃ TL TR TO, tableOf F64.arith items ln = some TL ∧ tableOf F64.arith items rn = some TR ∧
      RTable.ofDef F64.arith d = some TO ∧
      MulTotalF64 TL TR TO ∧ MulTotalF64 TR TL TO ∧ DivTotalF64 TO TR TL ∧ DivTotalF64 TO TL TR := by
  obtain ⟨-, TL, TR, TO, hTL, hTR, hTO, hL, hR, hO⟩ :=
    catalogue_derived_tables_f64 items hc it hit d h ln rn true hder
  exact ⟨TL, TR, TO, hTL, hTR, hTO,
    f64_dmul_total_generated _ _ (.of_tableIn hO), f64_dmul_total_generated _ _ (.of_tableIn hO),
    f64_ddiv_total_generated _ _ (.of_tableIn hL), f64_ddiv_total_generated _ _ (.of_tableIn hR)⟩

/-- declared quotients `Q = L / R`: `L / R = Q`, `Q * R = L`, `R * Q = L`, `L / Q = R` -/
theorem catalogue_f64_ddiv_total (items : List RawItem) (hc : items ∈ cratesF64)
    (it : RawItem) (hit : it ∈ items) (d : QtyDef) (h : expand it = .ok d) (ln rn : Text)
    (hder : d.derived = some ⟨ln, false, rn⟩) :
    ∃ TL TR TO, tableOf F64.arith items ln = some TL ∧ tableOf F64.arith items rn = some TR ∧
      RTable.ofDef F64.arith d = some TO ∧
      DivTotalF64 TL TR TO ∧ MulTotalF64 TO TR TL ∧ MulTotalF64 TR TO TL ∧ DivTotalF64 TL TO TR := by
  obtain ⟨-, TL, TR, TO, hTL, hTR, hTO, hL, hR, hO⟩ :=
    catalogue_derived_tables_f64 items hc it hit d h ln rn false hder
  exact ⟨TL, TR, TO, hTL, hTR, hTO,
    f64_ddiv_total_generated _ _ (.of_tableIn hO), f64_dmul_total_generated _ _ (.of_tableIn hL),
    f64_dmul_total_generated _ _ (.of_tableIn hL), f64_ddiv_total_generated _ _ (.of_tableIn hR)⟩

/-- positive literals by `Bridge.catalogue_def`: the decimal table of every item of the catalogue
is a `GeneratedDec` table with the exact literal values as scales -/
theorem catalogue_generatedDec (it : RawItem) (hit : it ∈ allItems) (d : QtyDef)
    (h : expand it = .ok d) (hk : d.kind = .withRef)
    (T : RTable Dec) (hT : RTable.ofDef Dec.arith d = some T) : GeneratedDec T (litVal d) :=
  .ofDef it d h hk T hT (catalogue_def it hit d h).pos

/-- every predefined quantity of the main crate is accepted by the macro; if it has a reference
unit its decimal table exists and is a `GeneratedDec` table -/
theorem catalogue_dec_table (it : RawItem) (hit : it ∈ Gen.Catalogue.items) :
    ∃ d, expand it = .ok d ∧ (d.kind = .withRef →
      ∃ T, RTable.ofDef Dec.arith d = some T ∧ GeneratedDec T (litVal d)) := by
  obtain ⟨d, h, hd⟩ :=
    catalogue_expands it (List.mem_append_left _ (List.mem_append_left _ hit))
  obtain ⟨T, hT⟩ := catalogue_dec_table_exists it (List.mem_append_left _ hit) d h
  exact ⟨d, h, fun hk => ⟨T, hT, .ofDef it d h hk T hT hd.pos⟩⟩

section catalogueDec
variable (it : RawItem) (hit : it ∈ allItems) (d : QtyDef) (h : expand it = .ok d)
  (hk : d.kind = .withRef) (T : RTable Dec) (hT : RTable.ofDef Dec.arith d = some T)
include hit h hk hT

/-- for every item of the catalogue with reference unit, any two of its units and every amount: if
the ratio of the two unit scales, the amount and the converted amount have absolute value at most
`1e17` (the property's domain), the conversion does not panic. The scales are the exact literal
values `litVal d`. -/
theorem catalogue_dec_convert_total (q : Q Dec Nat) (u : Nat) (hq : q.unit < T.n) (hu : u < T.n)
    (a : Rat) (ha : Dec.arith.val q.amount = some a)
    (hρ : |litVal d q.unit / litVal d u| ≤ 10 ^ 17) (hav : |a| ≤ 10 ^ 17)
    (hρa : |litVal d q.unit / litVal d u * a| ≤ 10 ^ 17) :
    ∃ r, convert Dec.arith (T.qt Dec.arith) q u = .ok r :=
  dec_convert_total_scaled (catalogue_generatedDec it hit d h hk T hT).scaled
    q u hq hu a ha hρ hav hρa

theorem catalogue_dec_cmp_total (a b : Q Dec Nat) (hau : a.unit < T.n) (hbu : b.unit < T.n)
    (x y : Rat) (hx : Dec.arith.val a.amount = some x) (hy : Dec.arith.val b.amount = some y)
    (hxv : |x| ≤ 10 ^ 17) (hyv : |y| ≤ 10 ^ 17)
    (hρ : |litVal d b.unit / litVal d a.unit| ≤ 10 ^ 17)
    (hρ' : |litVal d a.unit / litVal d b.unit| ≤ 10 ^ 17)
    (hρy : |litVal d b.unit / litVal d a.unit * y| ≤ 10 ^ 17)
    (hρx : |litVal d a.unit / litVal d b.unit * x| ≤ 10 ^ 17) :
    (∃ e, hrEq Dec.arith (T.qt Dec.arith) a b = .ok e) ∧
    (∃ p, hrPcmp Dec.arith (T.qt Dec.arith) a b = .ok p) :=
  dec_cmp_total_scaled (catalogue_generatedDec it hit d h hk T hT).scaled
    a b hau hbu x y hx hy hxv hyv hρ hρ' hρy hρx

theorem catalogue_dec_addsub_total (isSub : Bool) (a b : Q Dec Nat)
    (hau : a.unit < T.n) (hbu : b.unit < T.n) (x y : Rat)
    (hx : Dec.arith.val a.amount = some x) (hy : Dec.arith.val b.amount = some y)
    (hxv : |x| ≤ 10 ^ 17) (hyv : |y| ≤ 10 ^ 17)
    (hρ : |litVal d b.unit / litVal d a.unit| ≤ 10 ^ 17)
    (hρy : |litVal d b.unit / litVal d a.unit * y| ≤ 10 ^ 17) :
    ∃ r, (if isSub then hrSub Dec.arith (T.qt Dec.arith) a b
      else hrAdd Dec.arith (T.qt Dec.arith) a b) = .ok r :=
  dec_addsub_total_scaled (catalogue_generatedDec it hit d h hk T hT).scaled
    isSub a b hau hbu x y hx hy hxv hyv hρ hρy

theorem catalogue_dec_div_total (a b : Q Dec Nat)
    (hau : a.unit < T.n) (hbu : b.unit < T.n) (x y : Rat)
    (hx : Dec.arith.val a.amount = some x) (hy : Dec.arith.val b.amount = some y)
    (hyv : |y| ≤ 10 ^ 17)
    (hρlo : 1 / 10 ^ 15 ≤ |litVal d b.unit / litVal d a.unit|)
    (hρ : |litVal d b.unit / litVal d a.unit| ≤ 10 ^ 17)
    (htlo : 1 / 10 ^ 15 ≤ |litVal d b.unit / litVal d a.unit * y|)
    (ht : |litVal d b.unit / litVal d a.unit * y| ≤ 10 ^ 17)
    (hq : |x / (litVal d b.unit / litVal d a.unit * y)| ≤ 10 ^ 17) :
    ∃ c, hrDiv Dec.arith (T.qt Dec.arith) a b = .ok c :=
  dec_div_total_scaled (catalogue_generatedDec it hit d h hk T hT).scaled
    a b hau hbu x y hx hy hyv hρlo hρ htlo ht hq

theorem catalogue_dec_fit_total (x : Dec) (xv : Rat) (hx : Dec.arith.val x = some xv)
    (hsafe : ∀ u, u < T.n → ErrModel.dec.safe (xv / litVal d u) = true) :
    ∃ r, fit Dec.arith (T.qt Dec.arith) x = .ok r :=
  have hg := catalogue_generatedDec it hit d h hk T hT
  fit_total_scaled Dec.laws hg.scaled hg.generated.ref_mem x xv hx hsafe

theorem catalogue_dec_rate_total (r : Rate Dec) (q : Q Dec Nat) (hqu : q.unit < T.n)
    (hpu : r.perUnit < T.n) (htu : r.termUnit < T.n) (qv pmv tav : Rat) (w w' : Approx)
    (hq : Dec.arith.val q.amount = some qv) (hpm : Dec.arith.val r.perMultiple = some pmv)
    (hta : Dec.arith.val r.termAmount = some tav)
    (hw : rateApprox (litVal d) qv q.unit r.perUnit pmv tav = some w) (hok : w.ok = true)
    (hw' : rateApprox (litVal d) qv q.unit r.termUnit tav pmv = some w') (hok' : w'.ok = true) :
    (∃ res, Rate.mulQ Dec.arith T r q = .ok res) ∧ (∃ res, Rate.divQ Dec.arith T q r = .ok res) :=
  dec_rate_total_scaled (catalogue_generatedDec it hit d h hk T hT).scaled r q hqu hpu htu
    qv pmv tav w w' hq hpm hta hw hok hw' hok'

end catalogueDec

/-- the generated `impl Mul<R> for L { type Output = O }` does not panic inside the domain: operand
units are units of their tables, and the range condition `Oracle.derivedSafe` holds of the exact
product of the amounts, the exact product of the two unit scales and every unit scale of the
result type -/
def MulTotalDec (TL TR TO : RTable Dec) (scL scR scO : Nat → Rat) : Prop :=
  ∀ l r : Q Dec Nat, l.unit < TL.n → r.unit < TR.n → ∀ a b : Rat,
    Dec.arith.val l.amount = some a → Dec.arith.val r.amount = some b →
    (∀ u, u < TO.n →
      Oracle.derivedSafe ErrModel.dec (a * b) (scL l.unit * scR r.unit) (scO u) = true) →
    ∃ res, dmul Dec.arith (TL.qt Dec.arith) (TR.qt Dec.arith) (TO.qt Dec.arith) l r = .ok res

/-- the generated `impl Div<R> for L { type Output = O }` does not panic inside the domain
(divisor amount not zero) -/
def DivTotalDec (TL TR TO : RTable Dec) (scL scR scO : Nat → Rat) : Prop :=
  ∀ l r : Q Dec Nat, l.unit < TL.n → r.unit < TR.n → ∀ a b : Rat,
    Dec.arith.val l.amount = some a → Dec.arith.val r.amount = some b → b ≠ 0 →
    (∀ u, u < TO.n →
      Oracle.derivedSafe ErrModel.dec (a / b) (scL l.unit / scR r.unit) (scO u) = true) →
    ∃ res, ddiv Dec.arith (TL.qt Dec.arith) (TR.qt Dec.arith) (TO.qt Dec.arith) l r = .ok res

section derivedDec
variable {TL TR TO : RTable Dec} {scL scR scO : Nat → Rat}
  (hL : Scaled Dec.arith TL scL) (hR : Scaled Dec.arith TR scR) (hO : GeneratedDec TO scO)
include hL hR hO

/-- the generated `impl Mul<R> for L { type Output = O }` in the decimal back-end: operand
tables with exact positive scales, result type generated -/
theorem mulTotalDec_generated : MulTotalDec TL TR TO scL scR scO :=
  fun l r hlu hru _ _ ha hb hsafe =>
    dmul_eq Dec.arith _ _ _ l r ▸ derivedOp_total_scaled Dec.laws Dec.arith.mul _ _ hO.scaled
      hO.generated.ref_mem l r _ _ (Dec.laws.mul_le ha hb le_rfl)
      (Dec.laws.mul_le (hL.val hlu) (hR.val hru) le_rfl) hsafe

/-- the generated `impl Div<R> for L { type Output = O }`: the divisor's unit scale is not
zero; the divisor amount must not be zero -/
theorem divTotalDec_generated : DivTotalDec TL TR TO scL scR scO :=
  fun l r hlu hru _ _ ha hb hb0 hsafe =>
    ddiv_eq Dec.arith _ _ _ l r ▸ derivedOp_total_scaled Dec.laws Dec.arith.div _ _ hO.scaled
      hO.generated.ref_mem l r _ _ (Dec.laws.div_le ha hb hb0 le_rfl)
      (Dec.laws.div_le (hL.val hlu) (hR.val hru) (hR.pos hru).ne' le_rfl) hsafe

end derivedDec

/-- a decimal table of the catalogue is a `GeneratedDec` table (positive literals) -/
theorem GeneratedDec.of_tableIn {items : List RawItem} (hc : items ∈ cratesF64)
    {T : RTable Dec} (hT : TableIn Dec.arith items T) : ∃ sc, GeneratedDec T sc := by
  cases hT with
  | ofDef it hit d h hk _ hT =>
    exact ⟨_, catalogue_generatedDec it (crates_sub items hc it hit) d h hk T hT⟩
  | amount => exact ⟨_, .amount⟩

/-- for every predefined (or synthetic) quantity declared as a product `Q = L * R`, operand tables
looked up by name: the decimal tables exist, are `GeneratedDec`
tables (`scL`, `scR` are the exact literal values of the operand types' unit scales, or one for
`AmountT`) and ALL FOUR generated operators (`L * R = Q`, `R * L = Q`, `Q / R = L`, `Q / L = R`)
do not panic inside the domain `Oracle.derivedSafe` (divisors non-zero) -/
theorem catalogue_dec_dmul_total (items : List RawItem) (hc : items ∈ cratesDec)
    (it : RawItem) (hit : it ∈ items) (d : QtyDef) (h : expand it = .ok d) (ln rn : Text)
    (hder : d.derived = some ⟨ln, true, rn⟩) :
    ∃ TL TR TO scL scR, tableOf Dec.arith items ln = some TL ∧
      tableOf Dec.arith items rn = some TR ∧ RTable.ofDef Dec.arith d = some TO ∧
      GeneratedDec TL scL ∧ GeneratedDec TR scR ∧ GeneratedDec TO (litVal d) ∧
      MulTotalDec TL TR TO scL scR (litVal d) ∧ MulTotalDec TR TL TO scR scL (litVal d) ∧
      DivTotalDec TO TR TL (litVal d) scR scL ∧ DivTotalDec TO TL TR (litVal d) scL scR := by
  have hc' := cratesDec_sub items hc
  obtain ⟨hk, TL, TR, TO, hTL, hTR, hTO, hL, hR, -⟩ :=
    catalogue_derived_tables_dec items hc it hit d h ln rn true hder
  obtain ⟨scL, hL⟩ := GeneratedDec.of_tableIn hc' hL
  obtain ⟨scR, hR⟩ := GeneratedDec.of_tableIn hc' hR
  have hO := catalogue_generatedDec it (crates_sub items hc' it hit) d h hk TO hTO
  exact ⟨TL, TR, TO, scL, scR, hTL, hTR, hTO, hL, hR, hO,
    mulTotalDec_generated hL.scaled hR.scaled hO, mulTotalDec_generated hR.scaled hL.scaled hO,
    divTotalDec_generated hO.scaled hR.scaled hL, divTotalDec_generated hO.scaled hL.scaled hR⟩

/-- declared quotients `Q = L / R`: `L / R = Q`, `Q * R = L`, `R * Q = L`, `L / Q = R` -/
theorem catalogue_dec_ddiv_total (items : List RawItem) (hc : items ∈ cratesDec)
    (it : RawItem) (hit : it ∈ items) (d : QtyDef) (h : expand it = .ok d) (ln rn : Text)
    (hder : d.derived = some ⟨ln, false, rn⟩) :
    ∃ TL TR TO scL scR, tableOf Dec.arith items ln = some TL ∧
      tableOf Dec.arith items rn = some TR ∧ RTable.ofDef Dec.arith d = some TO ∧
      GeneratedDec TL scL ∧ GeneratedDec TR scR ∧ GeneratedDec TO (litVal d) ∧
      DivTotalDec TL TR TO scL scR (litVal d) ∧ MulTotalDec TO TR TL (litVal d) scR scL ∧
      MulTotalDec TR TO TL scR (litVal d) scL ∧ DivTotalDec TL TO TR scL (litVal d) scR := by
  have hc' := cratesDec_sub items hc
  obtain ⟨hk, TL, TR, TO, hTL, hTR, hTO, hL, hR, -⟩ :=
    catalogue_derived_tables_dec items hc it hit d h ln rn false hder
  obtain ⟨scL, hL⟩ := GeneratedDec.of_tableIn hc' hL
  obtain ⟨scR, hR⟩ := GeneratedDec.of_tableIn hc' hR
  have hO := catalogue_generatedDec it (crates_sub items hc' it hit) d h hk TO hTO
  exact ⟨TL, TR, TO, scL, scR, hTL, hTR, hTO, hL, hR, hO,
    divTotalDec_generated hL.scaled hR.scaled hO, mulTotalDec_generated hO.scaled hR.scaled hL,
    mulTotalDec_generated hR.scaled hO.scaled hL, divTotalDec_generated hL.scaled hO.scaled hR⟩

-- two `example` statements below bind a `d` they do not use
set_option linter.unusedVariables false

/-- `r` is a result, not a panic -/
def isOk {α : Type} : Res α → Bool
  | .ok _ => true
  | .error _ => false

/-- conversion: in the generated `Length` table of the main crate, `3.5 ft → in` satisfies
every hypothesis of `dec_convert_total_scaled` / `catalogue_dec_convert_total`
(and the conversion does return) -/
example : Gen.Catalogue.lengthRaw ∈ allItems ∧
    genWitness Dec.arith Gen.Catalogue.lengthRaw (fun d T =>
    LitsPositive d &&
    (match (List.range T.n).find? (fun u => decide (litVal d u = 3048 / 10000)),
        (List.range T.n).find? (fun u => decide (litVal d u = 254 / 10000)) with
     | some ft, some inch =>
       decide (ft < T.n) && decide (inch < T.n) &&
       decide (Dec.arith.val ⟨35, 1⟩ = some (35 / 10)) &&
       decide (|litVal d ft / litVal d inch| ≤ 10 ^ 17) && decide (|(35 / 10 : Rat)| ≤ 10 ^ 17) &&
       decide (|litVal d ft / litVal d inch * (35 / 10)| ≤ 10 ^ 17) &&
       isOk (convert Dec.arith (T.qt Dec.arith) ⟨⟨35, 1⟩, ft⟩ inch)
     | _, _ => false)) = true := by
  decide +kernel

/-- comparison, sum, ratio: `2 ft` and `25 in` satisfy every hypothesis of
`dec_cmp_total_scaled`, `dec_addsub_total_scaled` and `dec_div_total_scaled` (lower
bounds `1e-15` included) -/
example : genWitness Dec.arith Gen.Catalogue.lengthRaw (fun d T =>
    LitsPositive d &&
    (match (List.range T.n).find? (fun u => decide (litVal d u = 3048 / 10000)),
        (List.range T.n).find? (fun u => decide (litVal d u = 254 / 10000)) with
     | some ft, some inch =>
       decide (ft < T.n) && decide (inch < T.n) &&
       decide (Dec.arith.val ⟨2, 0⟩ = some 2) && decide (Dec.arith.val ⟨25, 0⟩ = some 25) &&
       decide (|(2 : Rat)| ≤ 10 ^ 17) && decide (|(25 : Rat)| ≤ 10 ^ 17) &&
       decide (1 / 10 ^ 15 ≤ |litVal d inch / litVal d ft|) &&
       decide (|litVal d inch / litVal d ft| ≤ 10 ^ 17) &&
       decide (|litVal d ft / litVal d inch| ≤ 10 ^ 17) &&
       decide (1 / 10 ^ 15 ≤ |litVal d inch / litVal d ft * 25|) &&
       decide (|litVal d inch / litVal d ft * 25| ≤ 10 ^ 17) &&
       decide (|litVal d ft / litVal d inch * 2| ≤ 10 ^ 17) &&
       decide (|2 / (litVal d inch / litVal d ft * 25)| ≤ 10 ^ 17) &&
       isOk (hrEq Dec.arith (T.qt Dec.arith) ⟨⟨2, 0⟩, ft⟩ ⟨⟨25, 0⟩, inch⟩) &&
       isOk (hrAdd Dec.arith (T.qt Dec.arith) ⟨⟨2, 0⟩, ft⟩ ⟨⟨25, 0⟩, inch⟩) &&
       isOk (hrDiv Dec.arith (T.qt Dec.arith) ⟨⟨2, 0⟩, ft⟩ ⟨⟨25, 0⟩, inch⟩)
     | _, _ => false)) = true := by
  decide +kernel

/-- derived operators with `AmountT` as RESULT type: `Frequency` is declared as
`AmountT / Duration`, so `Frequency * Duration = AmountT` is generated; `50 Hz * 2 s` satisfies the
hypotheses of `mulTotalDec_generated` (`derivedSafe` for the one unit of `AmountT`) -/
example :
    (match expand Gen.Catalogue.frequencyRaw, expand Gen.Catalogue.durationRaw with
     | .ok dF, .ok dD =>
       dF.kind == .withRef && dD.kind == .withRef && LitsPositive dF && LitsPositive dD &&
       dF.derived == some ⟨amountName, false, Gen.Catalogue.durationRaw.name⟩ &&
       (match RTable.ofDef Dec.arith dF, RTable.ofDef Dec.arith dD with
        | some TF, some TD =>
          let F := TF.qt Dec.arith
          let D := TD.qt Dec.arith
          let TA := RTable.amount Dec.arith
          decide (TA.n = 1) && decide (F.ref < TF.n) && decide (D.ref < TD.n) &&
          decide (Dec.arith.val ⟨50, 0⟩ = some 50) && decide (Dec.arith.val ⟨2, 0⟩ = some 2) &&
          Oracle.derivedSafe ErrModel.dec (50 * 2) (litVal dF F.ref * litVal dD D.ref) 1 &&
          isOk (dmul Dec.arith F D (TA.qt Dec.arith) ⟨⟨50, 0⟩, F.ref⟩ ⟨⟨2, 0⟩, D.ref⟩)
        | _, _ => false)
     | _, _ => false) = true := by
  decide +kernel

/-- rates: over the generated `Duration` table, `3 h` at a rate of `90` (unit `5` of the term
quantity) per `2 h` satisfies `hw`, `hok` of `dec_rate_total_scaled` for `rate * q` — also with
`REF_UNIT` as per unit, a conversion between different units — and `mulQ` returns -/
example : genWitness Dec.arith Gen.Catalogue.durationRaw (fun d T =>
    LitsPositive d &&
    (match (List.range T.n).find? (fun u => decide (litVal d u = 3600)) with
     | some hr =>
       decide (hr < T.n) &&
       (match rateApprox (litVal d) 3 hr hr 2 90 with
        | some w => w.ok
        | none => false) &&
       (match rateApprox (litVal d) 3 hr T.refIx.get! 2 90 with
        | some w => w.ok
        | none => false) &&
       isOk (Rate.mulQ Dec.arith T ⟨⟨90, 0⟩, 5, ⟨2, 0⟩, hr⟩ ⟨⟨3, 0⟩, hr⟩)
     | none => false)) = true := by
  decide +kernel

/-- the binary64 `Length` table is a `Generated` table; a NaN amount, `inf / 0` and a
fit of NaN do return -/
example : genWitness F64.arith Gen.Catalogue.lengthRaw (fun d T =>
    isOk (convert F64.arith (T.qt F64.arith) ⟨.nan, 0⟩ 1) &&
    isOk (hrDiv F64.arith (T.qt F64.arith) ⟨.inf false, 0⟩ ⟨.fin false 0 0, 1⟩) &&
    isOk (fit F64.arith (T.qt F64.arith) .nan)) = true := by
  decide +kernel

/-- a definition with a unit of scale zero (`#[ref_unit(R, "r")] #[unit(Z, "z", 0.0)]`); the macro
accepts it and the decimal table exists -/
def itZeroScale : RawItem where
  name := [81]
  args := []
  attrs := [⟨.refUnit, [.ident [82], .comma, .str [114]]⟩,
            ⟨.unit, [.ident [90], .comma, .str [122], .comma,
                     .float { digits := 0, nfrac := 1, isFloat := true }]⟩]

/-- the decimal theorems need `LitsPositive d` (true of the whole catalogue): in the table
generated from `itZeroScale` (units `Z` = 0 of scale zero, `R` = 1 = `REF_UNIT`) every other
hypothesis of `Bridge.convert_mag_generated_dec` holds of converting `1 R` to `Z` — `convSafe`
included, the ratio `1 / 0` being `0` in ℚ — and the conversion panics (division by zero) -/
theorem dec_convert_needs_positive_literals :
    ∃ d T, expand itZeroScale = .ok d ∧ d.kind = .withRef ∧ RTable.ofDef Dec.arith d = some T ∧
      (fun d T => !LitsPositive d && decide (T.n = 2) &&
        decide ((RTable.qt Dec.arith T).ref = 1) &&
        decide (Dec.arith.val ⟨1, 0⟩ = some 1) &&
        Oracle.convSafe ErrModel.dec (litVal d 1) (litVal d 0) 1 &&
        !isOk (convert Dec.arith (RTable.qt Dec.arith T) ⟨⟨1, 0⟩, 1⟩ 0)) d T = true :=
  genWitness_spec Dec.arith itZeroScale _ (by decide +kernel)

/-- in binary64 the same conversion returns (`C18.f64_convert_total` has no hypothesis) -/
example : genWitness F64.arith itZeroScale (fun d T =>
    isOk (convert F64.arith (T.qt F64.arith) ⟨.fin false F64.two52 (-52), 1⟩ 0)) = true := by
  decide +kernel

end Qty.C18
