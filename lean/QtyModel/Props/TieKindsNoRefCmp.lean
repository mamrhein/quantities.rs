import QtyModel.Ops
import QtyModel.Generated.Algos
/- Tie between code and model: the definitions re-emitted from the Rust source (`Generated/Algos.lean`) ARE
   the model's, for which trait method `==` and `partial_cmp` of a quantity type WITHOUT reference unit
   forward to. -/
namespace Qty.AlgoTie
open Qty.Gen.Algos

variable {A U : Type} [DecidableEq U]
variable (R : Arith A) (T : QT A U)

theorem noRef_eq (a b : Q A U) : Kind.noRef.eq R T a b = nrEq R a b := rfl
theorem noRef_partial_cmp (a b : Q A U) : Kind.noRef.partial_cmp R T a b = nrPcmp R a b := rfl

end Qty.AlgoTie
