import QtyModel.Lemmas.ListFind
import QtyModel.Generated.Algos
/-
  Tie between code and model for the `for unit in units` loops of the code generator
  (`codegen_unit_variants`, `codegen_unit_variants_array`, `codegen_fn_name`, `codegen_fn_symbol`,
  `codegen_fn_si_prefix`, `codegen_fn_scale`): the translator executes
  each loop body symbolically (every path must emit the same arm, up to the `#[doc]` attribute)
  and re-emits the list of arms.  The model assumes that the i-th variant of the generated enum
  is the i-th unit of `analyze`'s list and that `name()`, `symbol()`, `si_prefix()`, `scale()` of
  a variant are the fields of THAT unit; these theorems derive it from the emitted arms (first
  matching arm of a Rust `match`).
-/
namespace Qty.AlgoTie
open Qty.Gen.Algos

/-- value of a Rust `match self { Self::V₁ => e₁, Self::V₂ => e₂, … }` for the variant `v` -/
def armLookup {β : Type} (arms : List (Text × β)) (v : Text) : Option β :=
  (arms.find? (fun p => p.1 == v)).map (·.2)

/-- the arms emitted for the units `l` select, for `v`, the first unit whose key is `v` -/
theorem armLookup_map {α β : Type} (l : List α) (key : α → Text) (val : α → β) (v : Text) :
    armLookup (l.map (fun x => (key x, val x))) v = (l.find? (fun x => key x == v)).map val :=
  find_map_pair l key val v

/-- where the keys are distinct, that is the unit itself -/
theorem armLookup_mem {α β : Type} (l : List α) (key : α → Text) (val : α → β)
    (hn : (l.map key).Nodup) (u : α) (hu : u ∈ l) :
    armLookup (l.map (fun x => (key x, val x))) (key u) = some (val u) := by
  rw [armLookup_map, (find_key_iff hn _ u).mpr ⟨hu, rfl⟩]
  rfl

/-- arms emitted only for the units satisfying `p` -/
theorem armLookup_filter {α β : Type} (l : List α) (p : α → Bool) (key : α → Text) (val : α → β)
    (hn : (l.map key).Nodup) (u : α) (hu : u ∈ l) :
    armLookup ((l.filter p).map (fun x => (key x, val x))) (key u) =
      if p u then some (val u) else none := by
  split
  · next hp =>
    exact armLookup_mem _ key val (hn.sublist (List.filter_sublist.map key)) u
      (List.mem_filter.mpr ⟨hu, hp⟩)
  · next hp =>
    rw [armLookup_map, List.find?_eq_none.mpr]
    · rfl
    intro x hx hk
    obtain ⟨hxl, hpx⟩ := List.mem_filter.mp hx
    exact hp (key_inj_of_nodup hn hxl hu (by simpa using hk) ▸ hpx)

/-- enum variants and the `VARIANTS` array (what `iter()` walks) are the units in `analyze`'s order -/
theorem variants_in_order (units : List UnitDef) :
    Codegen.variants units = units.map (·.ident) ∧ Codegen.variants_array units = units.map (·.ident) :=
  ⟨rfl, rfl⟩

theorem name_of_variant (units : List UnitDef) (hn : (units.map (·.ident)).Nodup) (u : UnitDef) (hu : u ∈ units) :
    armLookup (Codegen.fn_name units) u.ident = some u.name :=
  armLookup_mem units (·.ident) (·.name) hn u hu

theorem symbol_of_variant (units : List UnitDef) (hn : (units.map (·.ident)).Nodup) (u : UnitDef) (hu : u ∈ units) :
    armLookup (Codegen.fn_symbol units) u.ident = some u.symbol :=
  armLookup_mem units (·.ident) (·.symbol) hn u hu

/-- `si_prefix()`: the unit's own prefix, `None` (the `_ => None` arm) for units without one -/
theorem si_prefix_of_variant (units : List UnitDef) (hn : (units.map (·.ident)).Nodup) (u : UnitDef) (hu : u ∈ units) :
    (armLookup (Codegen.fn_si_prefix units) u.ident).getD none = u.pfx := by
  rw [Codegen.fn_si_prefix, armLookup_filter units _ (·.ident) (·.pfx) hn u hu]
  cases u.pfx <;> rfl

/-- `scale()`: `Amnt!(<the unit's own scale literal>)` -/
theorem scale_of_variant (units : List UnitDef) (hn : (units.map (·.ident)).Nodup) (u : UnitDef) (hu : u ∈ units)
    (hs : u.scale.isSome) : armLookup (Codegen.fn_scale units) u.ident = some u.scale := by
  rw [Codegen.fn_scale, armLookup_filter units _ (·.ident) (·.scale) hn u hu, if_pos hs]

end Qty.AlgoTie
