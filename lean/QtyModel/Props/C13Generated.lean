import QtyModel.Props.C13
import QtyModel.Props.C18Generated
import QtyModel.Lemmas.Approx
import QtyModel.Props.Bridge
import QtyModel.Lemmas.Basic
import QtyModel.Lemmas.DecLaws
import QtyModel.Lemmas.F64Laws
import QtyModel.Props.C09
/-
  C13Generated — property C13 ("rates") END-TO-END for the types the macro generates.

  `Props/C13` proves the rate operators sound over an ARBITRARY run-time table, with the table's
  scales read inside the propagated description `approxRateApply`.  `Bridge.scaled_dec` proves that
  every table the macro model generates from a definition with positive scale literals has the
  exact literal values as scales; `C18.GeneratedDec T sc` names such a table (or `AmountT`),
  `GeneratedDec.scaled` is the fact (binary64: `GeneratedF64 T`, beside it in
  `Props/C18Generated`).  Here the two are composed.  (The first sentence of the
  property — a rate reports its four components, the reciprocal swaps them and is an involution —
  involves no table: `C13.accessors`, `from_qty_vals`, `reciprocal_swaps`,
  `reciprocal_involutive`.)

  Side conditions that remain, and why:
  the units are units of their tables; the range condition; positive scale literals
  (`GeneratedDec`, true of the whole catalogue) — `value_needs_positive_literals` is a
  kernel-checked witness that they cannot be dropped (a unit of scale `0.0` is accepted by the
  macro; same-unit application returns `ta · qv / pm` while the formula through the scales gives
  zero).  In `rate_inverse_generated_dec` the second range condition is taken at the largest
  magnitude the intermediate amount can have (exact value plus `rateBound`); the second step is a
  same-unit application, whose range condition is monotone in the magnitude
  (`rateInRange_same_mono`) and whose bound does not depend on the value.
-/
namespace Qty.C13
open Qty.Rate Qty.MacroFront Qty.Bridge Qty.C18 Qty.C09

/-- half a unit in the 18th decimal place: the rounding error of one decimal `*` or `/` -/
def eta : Rat := 1 / (2 * 10 ^ 18)

theorem dec_E_eta (t : Rat) : ErrModel.dec.E t = eta := Dec.dec_E t

theorem eta_pos : 0 < eta := by unfold eta; positivity

theorem two_eta_pos : 0 < 2 * eta := mul_pos two_pos eta_pos

/-- every magnitude the decimal description tests has the form `|v| + e` with a bound `e ≥ 0` -/
theorem safe_abs_add (v e : Rat) (he : 0 ≤ e) :
    ErrModel.dec.safe (|v| + e) = decide (|v| + e ≤ 10 ^ 19) :=
  Dec.safe_of_nonneg (add_nonneg (abs_nonneg v) he)

/-- the first step `q / (1·u)` of `rateApproxM` -/
def qstep (M : ErrModel) (sc : Nat → Rat) (qv : Rat) (qu u : Nat) : Option Approx :=
  if qu == u then Approx.div M (Approx.exact qv) (Approx.exact 1)
    else do
      let ratio ← Approx.div M (Approx.exact (sc u)) (Approx.exact (sc qu))
      Approx.div M (Approx.exact qv) (Approx.mul M ratio (Approx.exact 1))

theorem rateApproxM_steps (M : ErrModel) (sc : Nat → Rat) (qv : Rat) (qu u : Nat) (dv mv : Rat) :
    rateApproxM M sc qv qu u dv mv = (qstep M sc qv qu u).bind fun x =>
      (Approx.div M x (Approx.exact dv)).bind fun amnt =>
        some (Approx.mul M amnt (Approx.exact mv)) := rfl

/-- exact value of the first step `q / (1·u)`: the amount of `q` expressed in unit `u` -/
def qdivVal (sc : Nat → Rat) (qv : Rat) (qu u : Nat) : Rat :=
  if qu = u then qv else qv / (sc u / sc qu)

/-- error bound of the first step `q / (1·u)` in the decimal back-end -/
def qdivBound (sc : Nat → Rat) (qv : Rat) (qu u : Nat) : Rat :=
  if qu = u then eta
  else 2 * eta * |qv| / (|sc u / sc qu| * (|sc u / sc qu| - 2 * eta)) + eta

theorem qdivVal_same (sc : Nat → Rat) (v : Rat) (u : Nat) : qdivVal sc v u u = v := if_pos rfl

theorem qdivBound_same (sc : Nat → Rat) (v : Rat) (u : Nat) : qdivBound sc v u u = eta := if_pos rfl

theorem qdivBound_nonneg (sc : Nat → Rat) (qv : Rat) (qu u : Nat)
    (hρ : qu ≠ u → 2 * eta < |sc u / sc qu|) : 0 ≤ qdivBound sc qv qu u := by
  unfold qdivBound
  split
  · exact eta_pos.le
  · next h =>
    have h2 : 0 < |sc u / sc qu| - 2 * eta := sub_pos.mpr (hρ h)
    have h3 : 0 < |sc u / sc qu| := two_eta_pos.trans (hρ h)
    exact add_nonneg (div_nonneg (mul_nonneg two_eta_pos.le (abs_nonneg _))
      (mul_pos h3 h2).le) eta_pos.le

/-- The first step in the decimal back-end, in closed form.  For different units the ratio of the
scales carries two roundings (`/` and `* 1`): the step answers iff the ratio can still be told
from zero, and tests the ratio after each rounding and the quotient. -/
theorem qstep_dec (sc : Nat → Rat) (qv : Rat) (qu u : Nat) :
    qstep ErrModel.dec sc qv qu u =
      if qu ≠ u → 2 * eta < |sc u / sc qu| then
        some ⟨qdivVal sc qv qu u, qdivBound sc qv qu u,
          decide ((qu ≠ u → |sc u / sc qu| + 2 * eta ≤ 10 ^ 19) ∧
            |qdivVal sc qv qu u| + qdivBound sc qv qu u ≤ 10 ^ 19)⟩
      else none := by
  have he := eta_pos
  by_cases h : qu = u
  · subst h
    simp only [qstep, beq_self_eq_true, if_true, div_exact _ 1 one_ne_zero, ne_eq, not_true,
      false_imp_iff, true_and, qdivVal_same, qdivBound_same]
    simp [Approx.exact, dec_E_eta, safe_abs_add _ _ he.le]
  · have h' : (qu == u) = false := by simpa using h
    by_cases hq : sc qu = 0
    · -- the ratio of the scales has no description, and `|sc u / 0| = 0` is not above `2 * eta`
      rw [qstep, h', if_neg Bool.false_ne_true, hq, div_exact_zero, div_zero, abs_zero,
        if_neg fun hh => lt_asymm (hh h) two_eta_pos]
      rfl
    · simp only [qstep, h', div_exact _ _ hq, mul_exact, exact_div, Bool.false_eq_true, if_false,
        Option.bind_eq_bind, Option.bind_some]
      simp only [Approx.exact, dec_E_eta, zero_div, add_zero, zero_add, mul_one, abs_one, one_mul,
        Bool.true_and, qdivVal, qdivBound, add_assoc, ← two_mul, ne_eq, h, not_false_eq_true,
        forall_const, if_false]
      by_cases hρ : 2 * eta < |sc u / sc qu|
      · have hB := qdivBound_nonneg sc qv qu u fun _ => hρ
        rw [qdivBound, if_neg h] at hB
        rw [if_neg (not_le.mpr hρ), if_pos hρ, mul_comm |qv|]
        refine congrArg (fun b => some (Approx.mk _ _ b)) ?_
        rw [safe_abs_add _ _ he.le, safe_abs_add _ _ two_eta_pos.le, safe_abs_add _ _ hB,
          ← Bool.decide_and, ← Bool.decide_and, decide_eq_decide]
        exact ⟨fun ⟨⟨_, hb⟩, hc⟩ => ⟨hb, hc⟩, fun ⟨hb, hc⟩ =>
          ⟨⟨(add_le_add le_rfl (le_mul_of_one_le_left he.le one_le_two)).trans hb, hb⟩, hc⟩⟩
      · rw [if_pos (not_lt.mp hρ), if_neg hρ]

/-- exact value of `((q / 1·u) / d) * m` -/
def rateVal (sc : Nat → Rat) (qv : Rat) (qu u : Nat) (dv mv : Rat) : Rat :=
  qdivVal sc qv qu u / dv * mv

/-- error bound of `((q / 1·u) / d) * m` in the decimal back-end, an explicit rational function of
the exact scales and the exact values of the three amounts -/
def rateBound (sc : Nat → Rat) (qv : Rat) (qu u : Nat) (dv mv : Rat) : Rat :=
  |mv| * (qdivBound sc qv qu u / |dv| + eta) + eta

/-- the range condition of `((q / 1·u) / d) * m` in the decimal back-end, in plain inequalities:
the divisor is not zero, the ratio of the two unit scales can be told from zero after two roundings
and every intermediate magnitude plus its error bound is at most `1e19` -/
def rateInRange (sc : Nat → Rat) (qv : Rat) (qu u : Nat) (dv mv : Rat) : Prop :=
  dv ≠ 0 ∧
  (qu ≠ u → 2 * eta < |sc u / sc qu| ∧ |sc u / sc qu| + 2 * eta ≤ 10 ^ 19) ∧
  |qdivVal sc qv qu u| + qdivBound sc qv qu u ≤ 10 ^ 19 ∧
  |qdivVal sc qv qu u / dv| + (qdivBound sc qv qu u / |dv| + eta) ≤ 10 ^ 19 ∧
  |rateVal sc qv qu u dv mv| + rateBound sc qv qu u dv mv ≤ 10 ^ 19

instance (sc : Nat → Rat) (qv : Rat) (qu u : Nat) (dv mv : Rat) :
    Decidable (rateInRange sc qv qu u dv mv) := by
  unfold rateInRange; infer_instance

/-- closed form: the decimal description answers iff the divisor is not zero and the ratio of
the scales can be told from zero; it is then the exact value `rateVal` with the explicit error
bound `rateBound`, and its flag is the range condition -/
theorem rateApproxM_dec (sc : Nat → Rat) (qv : Rat) (qu u : Nat) (dv mv : Rat) :
    rateApproxM ErrModel.dec sc qv qu u dv mv =
      if dv ≠ 0 ∧ (qu ≠ u → 2 * eta < |sc u / sc qu|) then
        some ⟨rateVal sc qv qu u dv mv, rateBound sc qv qu u dv mv,
          decide (rateInRange sc qv qu u dv mv)⟩
      else none := by
  rw [rateApproxM_steps, qstep_dec]
  by_cases hρ : qu ≠ u → 2 * eta < |sc u / sc qu|
  · by_cases hd : dv = 0
    · simp [hd, div_exact_zero]
    · have he := eta_pos
      have hB2 := add_nonneg (div_nonneg (qdivBound_nonneg sc qv qu u hρ) (abs_nonneg dv)) he.le
      have hB3 := add_nonneg (mul_nonneg (abs_nonneg mv) hB2) he.le
      rw [if_pos hρ, if_pos ⟨hd, hρ⟩]
      simp only [Option.bind_some, div_exact _ dv hd, mul_exact, dec_E_eta, add_assoc]
      refine congrArg (fun b => some (Approx.mk (rateVal sc qv qu u dv mv)
        (rateBound sc qv qu u dv mv) b)) ?_
      rw [safe_abs_add _ _ hB2, safe_abs_add _ _ hB3, ← Bool.decide_and, ← Bool.decide_and,
        decide_eq_decide]
      exact ⟨fun ⟨⟨⟨a, b⟩, c⟩, d⟩ => ⟨hd, fun h => ⟨hρ h, a h⟩, b, c, d⟩,
        fun ⟨_, a, b, c, d⟩ => ⟨⟨⟨fun h => (a h).2, b⟩, c⟩, d⟩⟩
  · rw [if_neg hρ, if_neg fun h => hρ h.2]; rfl

theorem rateApproxM_of_inRange (sc : Nat → Rat) (qv : Rat) (qu u : Nat) (dv mv : Rat)
    (h : rateInRange sc qv qu u dv mv) :
    rateApproxM ErrModel.dec sc qv qu u dv mv
      = some ⟨rateVal sc qv qu u dv mv, rateBound sc qv qu u dv mv, true⟩ := by
  rw [rateApproxM_dec, if_pos ⟨h.1, fun hh => (h.2.1 hh).1⟩, decide_eq_true h]

theorem rateApproxM_dec_some {sc : Nat → Rat} {qv : Rat} {qu u : Nat} {dv mv : Rat} {w : Approx}
    (hw : rateApproxM ErrModel.dec sc qv qu u dv mv = some w) :
    w = ⟨rateVal sc qv qu u dv mv, rateBound sc qv qu u dv mv,
      decide (rateInRange sc qv qu u dv mv)⟩ := by
  rw [rateApproxM_dec] at hw
  split at hw <;> cases hw
  rfl

/-- the explicit range condition is EQUIVALENT to `some w`, `w.ok` of the propagated description
(the hypotheses of `mulQ_value_generated_dec`) -/
theorem rateInRange_iff (sc : Nat → Rat) (qv : Rat) (qu u : Nat) (dv mv : Rat) :
    rateInRange sc qv qu u dv mv ↔
      ∃ w, rateApproxM ErrModel.dec sc qv qu u dv mv = some w ∧ w.ok = true := by
  refine ⟨fun h => ⟨_, rateApproxM_of_inRange sc qv qu u dv mv h, rfl⟩, fun ⟨w, hw, hok⟩ => ?_⟩
  rw [rateApproxM_dec_some hw] at hok
  exact of_decide_eq_true hok

set_option linter.unusedVariables false in
/-- the exact value is "`m` × (value / `d`·unit)", the value converted through the exact scales
(`hqu` is not used) -/
theorem rateVal_eq (sc : Nat → Rat) (qv : Rat) (qu u : Nat) (dv mv : Rat)
    (hqu : 0 < sc qu) (hu : 0 < sc u) :
    rateVal sc qv qu u dv mv = mv * (qv * sc qu / (dv * sc u)) := by
  unfold rateVal qdivVal
  split
  · next h => rw [h, mul_div_mul_right _ _ hu.ne', mul_comm]
  · rw [div_div_eq_mul_div, div_div, mul_comm (sc u), mul_comm]

section generic
variable {A : Type} {R : Arith A} {M : ErrModel}

/-- the description exists only for a divisor that is not zero -/
theorem rateApproxM_ne_zero (sc : Nat → Rat) (qv : Rat) (qu u : Nat) (dv mv : Rat) (w : Approx)
    (hw : rateApproxM M sc qv qu u dv mv = some w) : dv ≠ 0 := by
  rintro rfl
  simp [rateApproxM, div_exact_zero] at hw

/-- value of the propagated description over a `Scaled` table (`C13.rate_apply_value`) -/
theorem rateApproxM_value {T : RTable A} {sc : Nat → Rat} (hs : Scaled R T sc) (qv : Rat)
    (qu u : Nat) (dv mv : Rat) (w : Approx) (hqu : qu < T.n) (hu : u < T.n)
    (hw : rateApproxM M sc qv qu u dv mv = some w) :
    w.v = mv * (qv * sc qu / (dv * sc u)) := by
  rw [← mul_div_assoc]
  exact rate_apply_value R T hs.kind qu u qv dv mv _ _ (hs.val hqu) (hs.val hu) (hs.pos hqu).ne'
    (hs.pos hu).ne' (rateApproxM_ne_zero sc qv qu u dv mv w hw) w
    (by rw [approxRateApply_scaled hs qv dv mv hqu hu, hw])

variable (L : Laws R M)
include L

/-- `rate * q` / `q * rate`, any back-end, per-quantity table with reference unit and exact
positive scales `sc` -/
theorem mulQ_value_scaled {TP : RTable A} {sc : Nat → Rat} (hs : Scaled R TP sc)
    (r : Rate A) (q : Q A Nat) (hqu : q.unit < TP.n) (hpu : r.perUnit < TP.n)
    (qv pmv tav : Rat) (w : Approx)
    (hq : R.val q.amount = some qv) (hpm : R.val r.perMultiple = some pmv)
    (hta : R.val r.termAmount = some tav)
    (hw : rateApproxM M sc qv q.unit r.perUnit pmv tav = some w) (hok : w.ok = true) :
    ∃ res z, Rate.mulQ R TP r q = .ok res ∧ res.unit = r.termUnit ∧
      R.val res.amount = some z ∧
      |z - tav * (qv * sc q.unit / (pmv * sc r.perUnit))| ≤ w.err := by
  obtain ⟨res, h, hu, z, hz, hb⟩ := mulQ_sound R L TP r q qv pmv tav w hq hpm hta
    (by rw [approxRateApply_scaled hs qv pmv tav hqu hpu, hw]) hok
  rw [rateApproxM_value hs qv q.unit r.perUnit pmv tav w hqu hpu hw] at hb
  exact ⟨res, z, h, hu, hz, hb⟩

/-- `q / rate`, any back-end, term-quantity table with reference unit and exact positive
scales `sc` -/
theorem divQ_value_scaled {TT : RTable A} {sc : Nat → Rat} (hs : Scaled R TT sc)
    (r : Rate A) (q : Q A Nat) (hqu : q.unit < TT.n) (htu : r.termUnit < TT.n)
    (qv pmv tav : Rat) (w : Approx)
    (hq : R.val q.amount = some qv) (hpm : R.val r.perMultiple = some pmv)
    (hta : R.val r.termAmount = some tav)
    (hw : rateApproxM M sc qv q.unit r.termUnit tav pmv = some w) (hok : w.ok = true) :
    ∃ res z, Rate.divQ R TT q r = .ok res ∧ res.unit = r.perUnit ∧
      R.val res.amount = some z ∧
      |z - pmv * (qv * sc q.unit / (tav * sc r.termUnit))| ≤ w.err :=
  mulQ_value_scaled L hs r.reciprocal q hqu htu qv tav pmv w hq hta hpm hw hok

/-- `(rate * q) / rate` returns `q`, any back-end: `q` a value of the per quantity (table `TP`),
`TT` the table of the term quantity.  `w1` describes the first step; the second step is described
on the intermediate amount `z1` the first step returned, which lies within `w1.err` of its exact
value — `B2` bounds the error of the second step for every such `z1`.  The result carries the per
unit and its amount is within `B2 + |pm / ta| · w1.err` of the amount of `q` expressed in the per
unit, `qv · s_q / s_pu`. -/
theorem rate_inverse_scaled {TP TT : RTable A} {scP scT : Nat → Rat} (hsP : Scaled R TP scP)
    (hsT : Scaled R TT scT) (r : Rate A) (q : Q A Nat) (hqu : q.unit < TP.n)
    (hpu : r.perUnit < TP.n) (htu : r.termUnit < TT.n) (qv pmv tav : Rat) (w1 : Approx) (B2 : Rat)
    (hq : R.val q.amount = some qv) (hpm : R.val r.perMultiple = some pmv)
    (hta : R.val r.termAmount = some tav)
    (hw1 : rateApproxM M scP qv q.unit r.perUnit pmv tav = some w1) (hok1 : w1.ok = true)
    (hw2 : ∀ z1, |z1 - tav * (qv * scP q.unit / (pmv * scP r.perUnit))| ≤ w1.err →
      ∃ w2, rateApproxM M scT z1 r.termUnit r.termUnit tav pmv = some w2 ∧ w2.ok = true ∧
        w2.err ≤ B2) :
    ∃ res1 res2 z2, Rate.mulQ R TP r q = .ok res1 ∧ Rate.divQ R TT res1 r = .ok res2 ∧
      res2.unit = r.perUnit ∧ R.val res2.amount = some z2 ∧
      |z2 - qv * scP q.unit / scP r.perUnit| ≤ B2 + |pmv / tav| * w1.err := by
  obtain ⟨res1, z1, h1, hu1, hz1, hb1⟩ :=
    mulQ_value_scaled L hsP r q hqu hpu qv pmv tav w1 hq hpm hta hw1 hok1
  obtain ⟨w2, hw2', hok2, hB2⟩ := hw2 z1 hb1
  have hpm0 := rateApproxM_ne_zero scP qv q.unit r.perUnit pmv tav w1 hw1
  have hta0 := rateApproxM_ne_zero scT z1 r.termUnit r.termUnit tav pmv w2 hw2'
  have hst := (hsT.pos htu).ne'
  obtain ⟨res2, z2, h2, hu2, hz2, hb2⟩ :=
    divQ_value_scaled L hsT r res1 (by rw [hu1]; exact htu) htu z1 pmv tav w2 hz1 hpm hta
      (by rw [hu1]; exact hw2') hok2
  refine ⟨res1, res2, z2, h1, h2, hu2, hz2, ?_⟩
  -- `hb2 : |z2 - pmv / tav * z1| ≤ …`, `hb1 : |z1 - tav / pmv * x| ≤ …` with
  -- `x = qv * scP q.unit / scP r.perUnit`: the form `abs_sub_le_chain` takes
  rw [hu1, mul_div_mul_right _ _ hst, ← mul_div_assoc, mul_div_right_comm] at hb2
  rw [mul_comm pmv, ← div_div, ← mul_div_assoc, mul_div_right_comm] at hb1
  have hk : pmv / tav * (tav / pmv) = 1 := by
    rw [div_mul_div_comm, mul_comm tav, div_self (mul_ne_zero hpm0 hta0)]
  exact (abs_sub_le_chain hk hb1 hb2).trans (add_le_add hB2 le_rfl)

end generic

theorem rateBound_same (sc : Nat → Rat) (qv : Rat) (u : Nat) (dv mv : Rat) :
    rateBound sc qv u u dv mv = |mv| * (eta / |dv| + eta) + eta := by
  rw [rateBound, qdivBound_same]

theorem rateBound_diff (sc : Nat → Rat) (qv : Rat) (qu u : Nat) (dv mv : Rat) (h : qu ≠ u) :
    rateBound sc qv qu u dv mv = |mv| * ((2 * eta * |qv| /
      (|sc u / sc qu| * (|sc u / sc qu| - 2 * eta)) + eta) / |dv| + eta) + eta := by
  simp only [rateBound, qdivBound, if_neg h]

/-- same unit: the range condition is monotone in the magnitude of the value -/
theorem rateInRange_same_mono (sc : Nat → Rat) (X z : Rat) (u : Nat) (dv mv : Rat)
    (hz : |z| ≤ X) (h : rateInRange sc X u u dv mv) : rateInRange sc z u u dv mv := by
  have hX : |z| ≤ |X| := hz.trans (le_abs_self X)
  have hdv : |z / dv| ≤ |X / dv| := by
    rw [abs_div, abs_div]; exact div_le_div_of_nonneg_right hX (abs_nonneg dv)
  have hmv : |z / dv * mv| ≤ |X / dv * mv| := by
    rw [abs_mul, abs_mul]; exact mul_le_mul_of_nonneg_right hdv (abs_nonneg mv)
  simp only [rateInRange, rateVal, rateBound, qdivVal_same, qdivBound_same] at h ⊢
  obtain ⟨hd, -, h1, h2, h3⟩ := h
  exact ⟨hd, fun hh => absurd rfl hh, (add_le_add hX le_rfl).trans h1,
    (add_le_add hdv le_rfl).trans h2, (add_le_add hmv le_rfl).trans h3⟩

/-- `rate * q` (and the generated `q * rate`: `Mul<Rate<TQ, Self>>
for PQ` and `Mul<PQ> for Rate<TQ, PQ>` have the same body, the model routes both through `mulQ`)
over a generated decimal per-quantity table `TP` (a generated quantity with positive scale
literals, or `AmountT`; `sc` the exact literal scales).  Inside the range condition (`w.ok` of the
propagated description on the literal scales) the operator returns, the result carries the TERM unit, and
its amount is within the explicit bound `rateBound` of `ta · (qv · s_q / (pm · s_pu))`: term
amount × (value / per value). -/
theorem mulQ_value_generated_dec {TP : RTable Dec} {sc : Nat → Rat} (hg : GeneratedDec TP sc)
    (r : Rate Dec) (q : Q Dec Nat) (hqu : q.unit < TP.n) (hpu : r.perUnit < TP.n)
    (qv pmv tav : Rat) (w : Approx)
    (hq : Dec.arith.val q.amount = some qv) (hpm : Dec.arith.val r.perMultiple = some pmv)
    (hta : Dec.arith.val r.termAmount = some tav)
    (hw : rateApprox sc qv q.unit r.perUnit pmv tav = some w) (hok : w.ok = true) :
    ∃ res z, Rate.mulQ Dec.arith TP r q = .ok res ∧ res.unit = r.termUnit ∧
      Dec.arith.val res.amount = some z ∧
      |z - tav * (qv * sc q.unit / (pmv * sc r.perUnit))|
        ≤ rateBound sc qv q.unit r.perUnit pmv tav := by
  rw [rateApprox_eq] at hw
  have := mulQ_value_scaled Dec.laws hg.scaled r q hqu hpu qv pmv tav w hq hpm hta hw hok
  rwa [rateApproxM_dec_some hw] at this

/-- `q / rate` over a generated decimal term-quantity table
`TT`: inside the range condition the operator returns, the result carries the PER unit, and its
amount is within `rateBound` of `pm · (qv · s_q / (ta · s_tu))`: per amount × (value / term
value). -/
theorem divQ_value_generated_dec {TT : RTable Dec} {sc : Nat → Rat} (hg : GeneratedDec TT sc)
    (r : Rate Dec) (q : Q Dec Nat) (hqu : q.unit < TT.n) (htu : r.termUnit < TT.n)
    (qv pmv tav : Rat) (w : Approx)
    (hq : Dec.arith.val q.amount = some qv) (hpm : Dec.arith.val r.perMultiple = some pmv)
    (hta : Dec.arith.val r.termAmount = some tav)
    (hw : rateApprox sc qv q.unit r.termUnit tav pmv = some w) (hok : w.ok = true) :
    ∃ res z, Rate.divQ Dec.arith TT q r = .ok res ∧ res.unit = r.perUnit ∧
      Dec.arith.val res.amount = some z ∧
      |z - pmv * (qv * sc q.unit / (tav * sc r.termUnit))|
        ≤ rateBound sc qv q.unit r.termUnit tav pmv :=
  mulQ_value_generated_dec hg r.reciprocal q hqu htu qv tav pmv w hq hta hpm hw hok

/-- on a generated table `q / rate` and
`q * rate.reciprocal` are the SAME computation (`C13.div_is_mul_reciprocal`): inside the range
condition both return, and return the same value — they agree exactly, not only up to rounding -/
theorem div_is_mul_reciprocal_generated_dec {TT : RTable Dec} {sc : Nat → Rat}
    (hg : GeneratedDec TT sc)
    (r : Rate Dec) (q : Q Dec Nat) (hqu : q.unit < TT.n) (htu : r.termUnit < TT.n)
    (qv pmv tav : Rat)
    (hq : Dec.arith.val q.amount = some qv) (hpm : Dec.arith.val r.perMultiple = some pmv)
    (hta : Dec.arith.val r.termAmount = some tav)
    (hr : rateInRange sc qv q.unit r.termUnit tav pmv) :
    ∃ res z, Rate.divQ Dec.arith TT q r = .ok res ∧
      Rate.mulQ Dec.arith TT r.reciprocal q = .ok res ∧ res.unit = r.perUnit ∧
      Dec.arith.val res.amount = some z ∧
      |z - pmv * (qv * sc q.unit / (tav * sc r.termUnit))|
        ≤ rateBound sc qv q.unit r.termUnit tav pmv := by
  obtain ⟨res, z, h, hu, hz, hb⟩ := divQ_value_generated_dec hg r q hqu htu qv pmv tav _ hq hpm hta
    (rateApproxM_of_inRange sc qv q.unit r.termUnit tav pmv hr) rfl
  exact ⟨res, z, h, (div_is_mul_reciprocal Dec.arith TT q r) ▸ h, hu, hz, hb⟩

/-- `(rate * q) / rate` returns `q`: `q` a value of the per
quantity (generated table `TP`), `TT` the generated table of the term quantity.  Range conditions:
`h1` for the first step, `h2` for the second step at the largest magnitude the intermediate amount
can have (exact value plus error bound of the first step; the second step divides a value that
already carries the term unit, so its range condition is monotone in the magnitude).  Both steps
return, the result carries the per unit and its amount is within the composed bound of the amount
of `q` expressed in the per unit, `qv · s_q / s_pu` (for `q.unit = r.perUnit`: of `qv`). -/
theorem rate_inverse_generated_dec {TP TT : RTable Dec} {scP scT : Nat → Rat}
    (hgP : GeneratedDec TP scP) (hgT : GeneratedDec TT scT)
    (r : Rate Dec) (q : Q Dec Nat) (hqu : q.unit < TP.n) (hpu : r.perUnit < TP.n)
    (htu : r.termUnit < TT.n) (qv pmv tav : Rat)
    (hq : Dec.arith.val q.amount = some qv) (hpm : Dec.arith.val r.perMultiple = some pmv)
    (hta : Dec.arith.val r.termAmount = some tav)
    (h1 : rateInRange scP qv q.unit r.perUnit pmv tav)
    (h2 : rateInRange scT (|tav * (qv * scP q.unit / (pmv * scP r.perUnit))|
        + rateBound scP qv q.unit r.perUnit pmv tav) r.termUnit r.termUnit tav pmv) :
    ∃ res1 res2 z2, Rate.mulQ Dec.arith TP r q = .ok res1 ∧
      Rate.divQ Dec.arith TT res1 r = .ok res2 ∧
      res2.unit = r.perUnit ∧ Dec.arith.val res2.amount = some z2 ∧
      |z2 - qv * scP q.unit / scP r.perUnit| ≤ (|pmv| * (eta / |tav| + eta) + eta)
        + |pmv / tav| * rateBound scP qv q.unit r.perUnit pmv tav := by
  have hw1 := rateApproxM_of_inRange scP qv q.unit r.perUnit pmv tav h1
  have key := rate_inverse_scaled Dec.laws hgP.scaled
    hgT.scaled r q hqu hpu htu qv pmv tav
    ⟨rateVal scP qv q.unit r.perUnit pmv tav, rateBound scP qv q.unit r.perUnit pmv tav, true⟩
    (|pmv| * (eta / |tav| + eta) + eta) hq hpm hta hw1 rfl
  apply key
  intro z1 hz1
  have h2' := rateInRange_same_mono scT _ z1 r.termUnit tav pmv (abs_le_of_abs_sub_le hz1) h2
  exact ⟨_, rateApproxM_of_inRange scT z1 r.termUnit r.termUnit tav pmv h2', rfl,
    le_of_eq (rateBound_same scT z1 r.termUnit tav pmv)⟩

/-- binary64: `(rate * q) / rate` returns `q`.  In binary64 the error of the second step
depends on the intermediate amount `z1` (relative rounding), so the second step is described for
every `z1` within the first step's bound of its exact value, `B2` bounding its error. -/
theorem rate_inverse_generated_f64 {TP TT : RTable F64} (hgP : GeneratedF64 TP)
    (hgT : GeneratedF64 TT) (r : Rate F64) (q : Q F64 Nat) (hqu : q.unit < TP.n)
    (hpu : r.perUnit < TP.n) (htu : r.termUnit < TT.n) (qv pmv tav : Rat) (w1 : Approx) (B2 : Rat)
    (hq : F64.arith.val q.amount = some qv) (hpm : F64.arith.val r.perMultiple = some pmv)
    (hta : F64.arith.val r.termAmount = some tav)
    (hw1 : rateApproxM ErrModel.f64 (f64Sc TP) qv q.unit r.perUnit pmv tav = some w1)
    (hok1 : w1.ok = true)
    (hw2 : ∀ z1, |z1 - tav * (qv * f64Sc TP q.unit / (pmv * f64Sc TP r.perUnit))| ≤ w1.err →
      ∃ w2, rateApproxM ErrModel.f64 (f64Sc TT) z1 r.termUnit r.termUnit tav pmv = some w2 ∧
        w2.ok = true ∧ w2.err ≤ B2) :
    ∃ res1 res2 z2, Rate.mulQ F64.arith TP r q = .ok res1 ∧
      Rate.divQ F64.arith TT res1 r = .ok res2 ∧
      res2.unit = r.perUnit ∧ F64.arith.val res2.amount = some z2 ∧
      |z2 - qv * f64Sc TP q.unit / f64Sc TP r.perUnit| ≤ B2 + |pmv / tav| * w1.err :=
  rate_inverse_scaled F64.laws hgP.scaled hgT.scaled r q
    hqu hpu htu qv pmv tav w1 B2 hq hpm hta hw1 hok1 hw2

/-- `rate * q` / `q * rate` for ALL rates whose per quantity has the decimal table `TP` (exact
scales `sc`) and all values of it: inside `rateInRange` the operator returns the term amount ×
(value / per value) in the term unit, within `rateBound` -/
def MulQValueDec (TP : RTable Dec) (sc : Nat → Rat) : Prop :=
  ∀ (r : Rate Dec) (q : Q Dec Nat), q.unit < TP.n → r.perUnit < TP.n → ∀ qv pmv tav : Rat,
    Dec.arith.val q.amount = some qv → Dec.arith.val r.perMultiple = some pmv →
    Dec.arith.val r.termAmount = some tav → rateInRange sc qv q.unit r.perUnit pmv tav →
    ∃ res z, Rate.mulQ Dec.arith TP r q = .ok res ∧ res.unit = r.termUnit ∧
      Dec.arith.val res.amount = some z ∧
      |z - tav * (qv * sc q.unit / (pmv * sc r.perUnit))|
        ≤ rateBound sc qv q.unit r.perUnit pmv tav

/-- `q / rate` for ALL rates whose term quantity has the decimal table `TT` and all values of it:
inside `rateInRange` the operator returns the per amount × (value / term value) in the per unit,
within `rateBound`, and `q * rate.reciprocal` returns the very same value -/
def DivQValueDec (TT : RTable Dec) (sc : Nat → Rat) : Prop :=
  ∀ (r : Rate Dec) (q : Q Dec Nat), q.unit < TT.n → r.termUnit < TT.n → ∀ qv pmv tav : Rat,
    Dec.arith.val q.amount = some qv → Dec.arith.val r.perMultiple = some pmv →
    Dec.arith.val r.termAmount = some tav → rateInRange sc qv q.unit r.termUnit tav pmv →
    ∃ res z, Rate.divQ Dec.arith TT q r = .ok res ∧
      Rate.mulQ Dec.arith TT r.reciprocal q = .ok res ∧ res.unit = r.perUnit ∧
      Dec.arith.val res.amount = some z ∧
      |z - pmv * (qv * sc q.unit / (tav * sc r.termUnit))|
        ≤ rateBound sc qv q.unit r.termUnit tav pmv

/-- `(rate * q) / rate` returns `q` for ALL rates with per-quantity table `TP` and term-quantity
table `TT` and all values `q` of the per quantity (the statement of `rate_inverse_generated_dec`) -/
def RateInverseDec (TP TT : RTable Dec) (scP scT : Nat → Rat) : Prop :=
  ∀ (r : Rate Dec) (q : Q Dec Nat), q.unit < TP.n → r.perUnit < TP.n → r.termUnit < TT.n →
    ∀ qv pmv tav : Rat,
    Dec.arith.val q.amount = some qv → Dec.arith.val r.perMultiple = some pmv →
    Dec.arith.val r.termAmount = some tav →
    rateInRange scP qv q.unit r.perUnit pmv tav →
    rateInRange scT (|tav * (qv * scP q.unit / (pmv * scP r.perUnit))|
        + rateBound scP qv q.unit r.perUnit pmv tav) r.termUnit r.termUnit tav pmv →
    ∃ res1 res2 z2, Rate.mulQ Dec.arith TP r q = .ok res1 ∧
      Rate.divQ Dec.arith TT res1 r = .ok res2 ∧
      res2.unit = r.perUnit ∧ Dec.arith.val res2.amount = some z2 ∧
      |z2 - qv * scP q.unit / scP r.perUnit| ≤ (|pmv| * (eta / |tav| + eta) + eta)
        + |pmv / tav| * rateBound scP qv q.unit r.perUnit pmv tav

/-- `rate * (q / rate)` returns `q` for all values `q` of the term quantity
(`rate_inverse_generated_dec` at `r.reciprocal`) -/
def RateInverseDec' (TP TT : RTable Dec) (scP scT : Nat → Rat) : Prop :=
  ∀ (r : Rate Dec) (q : Q Dec Nat), q.unit < TT.n → r.perUnit < TP.n → r.termUnit < TT.n →
    ∀ qv pmv tav : Rat,
    Dec.arith.val q.amount = some qv → Dec.arith.val r.perMultiple = some pmv →
    Dec.arith.val r.termAmount = some tav →
    rateInRange scT qv q.unit r.termUnit tav pmv →
    rateInRange scP (|pmv * (qv * scT q.unit / (tav * scT r.termUnit))|
        + rateBound scT qv q.unit r.termUnit tav pmv) r.perUnit r.perUnit pmv tav →
    ∃ res1 res2 z2, Rate.divQ Dec.arith TT q r = .ok res1 ∧
      Rate.mulQ Dec.arith TP r res1 = .ok res2 ∧
      res2.unit = r.termUnit ∧ Dec.arith.val res2.amount = some z2 ∧
      |z2 - qv * scT q.unit / scT r.termUnit| ≤ (|tav| * (eta / |pmv| + eta) + eta)
        + |tav / pmv| * rateBound scT qv q.unit r.termUnit tav pmv

theorem mulQValueDec_generated {TP : RTable Dec} {sc : Nat → Rat} (hg : GeneratedDec TP sc) :
    MulQValueDec TP sc :=
  fun r q hqu hpu qv pmv tav hq hpm hta hr =>
    mulQ_value_generated_dec hg r q hqu hpu qv pmv tav _ hq hpm hta
      (rateApproxM_of_inRange sc qv q.unit r.perUnit pmv tav hr) rfl

theorem divQValueDec_generated {TT : RTable Dec} {sc : Nat → Rat} (hg : GeneratedDec TT sc) :
    DivQValueDec TT sc :=
  fun r q hqu htu qv pmv tav hq hpm hta hr =>
    div_is_mul_reciprocal_generated_dec hg r q hqu htu qv pmv tav hq hpm hta hr

theorem rateInverseDec_generated {TP TT : RTable Dec} {scP scT : Nat → Rat}
    (hgP : GeneratedDec TP scP) (hgT : GeneratedDec TT scT) :
    RateInverseDec TP TT scP scT ∧ RateInverseDec' TP TT scP scT :=
  ⟨fun r q hqu hpu htu qv pmv tav hq hpm hta h1 h2 =>
    rate_inverse_generated_dec hgP hgT r q hqu hpu htu qv pmv tav hq hpm hta h1 h2,
   fun r q hqu hpu htu qv pmv tav hq hpm hta h1 h2 =>
    rate_inverse_generated_dec hgT hgP r.reciprocal q hqu htu hpu qv tav pmv hq hta hpm h1 h2⟩

/-- every predefined quantity of the main crate is accepted by
the macro; if it has a reference unit its decimal table exists and, as per quantity of a rate
(`MulQValueDec`) and as term quantity of a rate (`DivQValueDec`), the value statements hold with
the exact literal scales `litVal d`.  No hypothesis on the table is left. -/
theorem catalogue_rate_value_dec (it : RawItem) (hit : it ∈ Gen.Catalogue.items) :
    ∃ d, expand it = .ok d ∧ (d.kind = .withRef →
      ∃ T, RTable.ofDef Dec.arith d = some T ∧
        MulQValueDec T (litVal d) ∧ DivQValueDec T (litVal d)) := by
  obtain ⟨d, h, hT⟩ := catalogue_dec_table it hit
  refine ⟨d, h, fun hk => ?_⟩
  obtain ⟨T, hT, hg⟩ := hT hk
  exact ⟨T, hT, mulQValueDec_generated hg, divQValueDec_generated hg⟩

/-- the same for ANY item of the catalogue (astronomical crate and synthetic definitions of the
harness included) whose decimal table exists -/
theorem catalogue_rate_value_dec' (it : RawItem) (hit : it ∈ allItems) (d : QtyDef)
    (h : expand it = .ok d) (hk : d.kind = .withRef)
    (T : RTable Dec) (hT : RTable.ofDef Dec.arith d = some T) :
    MulQValueDec T (litVal d) ∧ DivQValueDec T (litVal d) :=
  ⟨mulQValueDec_generated (catalogue_generatedDec it hit d h hk T hT),
   divQValueDec_generated (catalogue_generatedDec it hit d h hk T hT)⟩

/-- for every pair of predefined quantities with reference
unit (per quantity `itP`, term quantity `itT`) multiplying by a rate and dividing by it, in either
order, returns the original value within the composed bound -/
theorem catalogue_rate_inverse_dec (itP itT : RawItem) (hitP : itP ∈ Gen.Catalogue.items)
    (hitT : itT ∈ Gen.Catalogue.items) :
    ∃ dP dT, expand itP = .ok dP ∧ expand itT = .ok dT ∧
      (dP.kind = .withRef → dT.kind = .withRef →
        ∃ TP TT, RTable.ofDef Dec.arith dP = some TP ∧ RTable.ofDef Dec.arith dT = some TT ∧
          RateInverseDec TP TT (litVal dP) (litVal dT) ∧
          RateInverseDec' TP TT (litVal dP) (litVal dT)) := by
  obtain ⟨dP, hP, hTP⟩ := catalogue_dec_table itP hitP
  obtain ⟨dT, hT, hTT⟩ := catalogue_dec_table itT hitT
  refine ⟨dP, dT, hP, hT, fun hkP hkT => ?_⟩
  obtain ⟨TP, hTP, hgP⟩ := hTP hkP
  obtain ⟨TT, hTT, hgT⟩ := hTT hkT
  exact ⟨TP, TT, hTP, hTT, rateInverseDec_generated hgP hgT⟩

/-- the same for any two items of the catalogue whose decimal tables exist -/
theorem catalogue_rate_inverse_dec' (itP itT : RawItem) (hitP : itP ∈ allItems)
    (hitT : itT ∈ allItems) (dP dT : QtyDef) (hP : expand itP = .ok dP) (hT : expand itT = .ok dT)
    (hkP : dP.kind = .withRef) (hkT : dT.kind = .withRef) (TP TT : RTable Dec)
    (hTP : RTable.ofDef Dec.arith dP = some TP) (hTT : RTable.ofDef Dec.arith dT = some TT) :
    RateInverseDec TP TT (litVal dP) (litVal dT) ∧ RateInverseDec' TP TT (litVal dP) (litVal dT) :=
  rateInverseDec_generated (catalogue_generatedDec itP hitP dP hP hkP TP hTP)
    (catalogue_generatedDec itT hitT dT hT hkT TT hTT)

/-- `rate * q` / `q * rate` and `q / rate` for all rates over the binary64 table `T` (as per
quantity, resp. term quantity) and all values of it -/
def RateValueF64 (T : RTable F64) : Prop :=
  ∀ (r : Rate F64) (q : Q F64 Nat), q.unit < T.n → ∀ qv pmv tav : Rat,
    F64.arith.val q.amount = some qv → F64.arith.val r.perMultiple = some pmv →
    F64.arith.val r.termAmount = some tav → ∀ w : Approx, w.ok = true →
    (r.perUnit < T.n →
      rateApproxM ErrModel.f64 (f64Sc T) qv q.unit r.perUnit pmv tav = some w →
      ∃ res z, Rate.mulQ F64.arith T r q = .ok res ∧ res.unit = r.termUnit ∧
        F64.arith.val res.amount = some z ∧
        |z - tav * (qv * f64Sc T q.unit / (pmv * f64Sc T r.perUnit))| ≤ w.err) ∧
    (r.termUnit < T.n →
      rateApproxM ErrModel.f64 (f64Sc T) qv q.unit r.termUnit tav pmv = some w →
      ∃ res z, Rate.divQ F64.arith T q r = .ok res ∧
        Rate.mulQ F64.arith T r.reciprocal q = .ok res ∧ res.unit = r.perUnit ∧
        F64.arith.val res.amount = some z ∧
        |z - pmv * (qv * f64Sc T q.unit / (tav * f64Sc T r.termUnit))| ≤ w.err)

theorem rateValueF64_generated {T : RTable F64} (hg : GeneratedF64 T) : RateValueF64 T :=
  fun r q hqu qv pmv tav hq hpm hta w hok =>
    ⟨fun hpu hw =>
      mulQ_value_scaled F64.laws hg.scaled r q hqu hpu qv pmv tav w hq hpm hta hw hok,
     fun htu hw => by
      obtain ⟨res, z, h, hu, hz, hb⟩ :=
        divQ_value_scaled F64.laws hg.scaled r q hqu htu qv pmv tav w hq hpm hta hw hok
      exact ⟨res, z, h, (div_is_mul_reciprocal F64.arith T q r) ▸ h, hu, hz, hb⟩⟩

/-- binary64: every predefined quantity of the main and of the astronomical crate: if it
has a reference unit its binary64 table exists and the value statements hold on the exact values
`f64Sc T` of the rounded scale literals -/
theorem catalogue_rate_value_f64 (it : RawItem)
    (hit : it ∈ Gen.Catalogue.items ++ Gen.Astro.items) :
    ∃ d, expand it = .ok d ∧ (d.kind = .withRef →
      ∃ T, RTable.ofDef F64.arith d = some T ∧ RateValueF64 T) := by
  obtain ⟨d, h, hT⟩ := catalogue_f64_table it hit
  exact ⟨d, h, fun hk => let ⟨T, hT, hg⟩ := hT hk; ⟨T, hT, rateValueF64_generated hg⟩⟩

/-- `r` returned a value in unit `u` whose amount is within `b` of `x` -/
def resWithin (r : Res (Q Dec Nat)) (u : Nat) (x b : Rat) : Bool :=
  match r with
  | .ok res => res.unit == u && (match Dec.arith.val res.amount with
    | some z => decide (|z - x| ≤ b)
    | none => false)
  | .error _ => false

/-- the generated `Length` (term quantity) and `Duration` (per quantity) tables of the main crate,
the units `km`, `h`, `min` found by their scale literals, and a property of all of it -/
def lengthDurationWitness
    (p : (dL dD : QtyDef) → (TL TD : RTable Dec) → (km hr mi : Nat) → Bool) : Bool :=
  match expand Gen.Catalogue.lengthRaw, expand Gen.Catalogue.durationRaw with
  | .ok dL, .ok dD =>
    dL.kind == .withRef && dD.kind == .withRef && LitsPositive dL && LitsPositive dD &&
    (match RTable.ofDef Dec.arith dL, RTable.ofDef Dec.arith dD with
     | some TL, some TD =>
       (match (List.range TL.n).find? (fun u => decide (litVal dL u = 1000)),
          (List.range TD.n).find? (fun u => decide (litVal dD u = 3600)),
          (List.range TD.n).find? (fun u => decide (litVal dD u = 60)) with
        | some km, some hr, some mi =>
          decide (km < TL.n) && decide (hr < TD.n) && decide (mi < TD.n) && p dL dD TL TD km hr mi
        | _, _, _ => false)
     | _, _ => false)
  | _, _ => false

section
-- the two witnesses below ignore some of the arguments `lengthDurationWitness` hands them
set_option linter.unusedVariables false

/-- the rate `90 km per 2 h` applied to `3 h` (same unit) and to `180 min` (other unit)
on the generated `Duration` table: every hypothesis of `MulQValueDec`
holds, the operator returns `135 km` within `rateBound`, and `rateBound` is below `1e-13` -/
example : lengthDurationWitness (fun dL dD TL TD km hr mi =>
    decide (Dec.arith.val ⟨3, 0⟩ = some 3) && decide (Dec.arith.val ⟨180, 0⟩ = some 180) &&
    decide (Dec.arith.val ⟨2, 0⟩ = some 2) && decide (Dec.arith.val ⟨90, 0⟩ = some 90) &&
    decide (rateInRange (litVal dD) 3 hr hr 2 90) &&
    decide (rateInRange (litVal dD) 180 mi hr 2 90) &&
    decide (90 * (3 * litVal dD hr / (2 * litVal dD hr)) = 135) &&
    decide (90 * (180 * litVal dD mi / (2 * litVal dD hr)) = 135) &&
    decide (rateBound (litVal dD) 3 hr hr 2 90 = 136 * eta) &&
    decide (rateBound (litVal dD) 180 mi hr 2 90 ≤ 1 / 10 ^ 13) &&
    resWithin (Rate.mulQ Dec.arith TD ⟨⟨90, 0⟩, km, ⟨2, 0⟩, hr⟩ ⟨⟨3, 0⟩, hr⟩) km 135
      (rateBound (litVal dD) 3 hr hr 2 90) &&
    resWithin (Rate.mulQ Dec.arith TD ⟨⟨90, 0⟩, km, ⟨2, 0⟩, hr⟩ ⟨⟨180, 0⟩, mi⟩) km 135
      (rateBound (litVal dD) 180 mi hr 2 90)) = true := by
  decide +kernel

/-- `270 km` and `270000 m` divided by the rate `90 km per 2 h` on the generated `Length`
table: every hypothesis of `DivQValueDec` holds, the operator returns
`6 h` within `rateBound`, and `q * rate.reciprocal` returns the same value -/
example : lengthDurationWitness (fun dL dD TL TD km hr mi =>
    let m := (TL.qt Dec.arith).ref
    let r : Rate Dec := ⟨⟨90, 0⟩, km, ⟨2, 0⟩, hr⟩
    decide (m < TL.n) && decide (litVal dL m = 1) &&
    decide (Dec.arith.val ⟨270, 0⟩ = some 270) && decide (Dec.arith.val ⟨270000, 0⟩ = some 270000) &&
    decide (rateInRange (litVal dL) 270 km km 90 2) &&
    decide (rateInRange (litVal dL) 270000 m km 90 2) &&
    decide (2 * (270 * litVal dL km / (90 * litVal dL km)) = 6) &&
    decide (2 * (270000 * litVal dL m / (90 * litVal dL km)) = 6) &&
    decide (rateBound (litVal dL) 270000 m km 90 2 ≤ 1 / 10 ^ 11) &&
    resWithin (Rate.divQ Dec.arith TL ⟨⟨270, 0⟩, km⟩ r) hr 6 (rateBound (litVal dL) 270 km km 90 2) &&
    resWithin (Rate.divQ Dec.arith TL ⟨⟨270000, 0⟩, m⟩ r) hr 6
      (rateBound (litVal dL) 270000 m km 90 2) &&
    decide (Rate.divQ Dec.arith TL ⟨⟨270000, 0⟩, m⟩ r
      = Rate.mulQ Dec.arith TL r.reciprocal ⟨⟨270000, 0⟩, m⟩)) = true := by
  decide +kernel

end

/-- `(rate * q) / rate` for the rate `90 km per 2 h` and `q = 180 min`: both range
conditions of `rate_inverse_generated_dec` hold (the second at the largest magnitude of the
intermediate `135 km`), the round trip returns `3 h` = `180 min` within the composed bound, which
is below `1e-14`; and the other order, `rate * (270000 m / rate)`, returns `270 km` = `270000 m` -/
example : lengthDurationWitness (fun dL dD TL TD km hr mi =>
    let m := (TL.qt Dec.arith).ref
    let r : Rate Dec := ⟨⟨90, 0⟩, km, ⟨2, 0⟩, hr⟩
    let b1 := rateBound (litVal dD) 180 mi hr 2 90
    let b1' := rateBound (litVal dL) 270000 m km 90 2
    decide (m < TL.n) &&
    decide (rateInRange (litVal dD) 180 mi hr 2 90) &&
    decide (rateInRange (litVal dL) (|90 * (180 * litVal dD mi / (2 * litVal dD hr))| + b1)
      km km 90 2) &&
    decide (180 * litVal dD mi / litVal dD hr = 3) &&
    decide ((|(2 : Rat)| * (eta / |(90 : Rat)| + eta) + eta) + |(2 : Rat) / 90| * b1 ≤ 1 / 10 ^ 14) &&
    (match Rate.mulQ Dec.arith TD r ⟨⟨180, 0⟩, mi⟩ with
     | .ok res1 => resWithin (Rate.divQ Dec.arith TL res1 r) hr 3
         ((|(2 : Rat)| * (eta / |(90 : Rat)| + eta) + eta) + |(2 : Rat) / 90| * b1)
     | .error _ => false) &&
    decide (rateInRange (litVal dL) 270000 m km 90 2) &&
    decide (rateInRange (litVal dD) (|2 * (270000 * litVal dL m / (90 * litVal dL km))| + b1')
      hr hr 2 90) &&
    decide (270000 * litVal dL m / litVal dL km = 270) &&
    (match Rate.divQ Dec.arith TL ⟨⟨270000, 0⟩, m⟩ r with
     | .ok res1 => resWithin (Rate.mulQ Dec.arith TD r res1) km 270
         ((|(90 : Rat)| * (eta / |(2 : Rat)| + eta) + eta) + |(90 : Rat) / 2| * b1')
     | .error _ => false)) = true := by
  decide +kernel

/-- the hypothesis `GeneratedDec` (positive scale literals, true of the whole catalogue) cannot be
dropped from the value statements: in the table generated from `C18.itZeroScale` (units `Z` = 0 of
scale zero, `R` = 1 = `REF_UNIT`; accepted by the macro) the rate `1 per 1 Z` applied to `1 Z`
satisfies `rateInRange` and returns `1`, whereas "term amount × (value / per value)" evaluated
through the scales, `1 · (1 · 0 / (1 · 0))`, is `0` -/
theorem value_needs_positive_literals :
    ∃ d T, expand itZeroScale = .ok d ∧ d.kind = .withRef ∧ RTable.ofDef Dec.arith d = some T ∧
      (fun d T => !LitsPositive d && decide (T.n = 2) && decide (litVal d 0 = 0) &&
        decide (Dec.arith.val ⟨1, 0⟩ = some 1) &&
        decide (rateInRange (litVal d) 1 0 0 1 1) &&
        decide ((1 : Rat) * (1 * litVal d 0 / (1 * litVal d 0)) = 0) &&
        decide (rateBound (litVal d) 1 0 0 1 1 < 1) &&
        resWithin (Rate.mulQ Dec.arith T ⟨⟨1, 0⟩, 1, ⟨1, 0⟩, 0⟩ ⟨⟨1, 0⟩, 0⟩) 1 1 0) d T = true :=
  genWitness_spec Dec.arith itZeroScale _ (by decide +kernel)

/-- binary64: over the generated binary64 `Duration` table the rate `90` (unit `5` of the term
quantity) per `2 h` applied to `3 h` and to `180 min` satisfies every hypothesis of
`RateValueF64` (scale literals in the normal range, `w.ok`), the propagated bound is
below `1e-12`, and the operator returns `135` within it -/
example : genWitness F64.arith Gen.Catalogue.durationRaw (fun d T =>
    LitsNormalF64 d &&
    (match (List.range T.n).find? (fun u => decide (f64Sc T u = 3600)),
        (List.range T.n).find? (fun u => decide (f64Sc T u = 60)) with
     | some hr, some mi =>
       decide (hr < T.n) && decide (mi < T.n) &&
       decide (F64.arith.val (F64.round 3 false) = some 3) &&
       decide (F64.arith.val (F64.round 180 false) = some 180) &&
       decide (F64.arith.val (F64.round 2 false) = some 2) &&
       decide (F64.arith.val (F64.round 90 false) = some 90) &&
       (match rateApproxM ErrModel.f64 (f64Sc T) 3 hr hr 2 90,
          rateApproxM ErrModel.f64 (f64Sc T) 180 mi hr 2 90 with
        | some w, some w' =>
          w.ok && w'.ok && decide (w.err ≤ 1 / 10 ^ 12) && decide (w'.err ≤ 1 / 10 ^ 12) &&
          (match Rate.mulQ F64.arith T ⟨F64.round 90 false, 5, F64.round 2 false, hr⟩
              ⟨F64.round 3 false, hr⟩,
            Rate.mulQ F64.arith T ⟨F64.round 90 false, 5, F64.round 2 false, hr⟩
              ⟨F64.round 180 false, mi⟩ with
           | .ok res, .ok res' =>
             res.unit == 5 && res'.unit == 5 &&
             (match F64.arith.val res.amount, F64.arith.val res'.amount with
              | some z, some z' =>
                decide (|z - 90 * (3 * f64Sc T hr / (2 * f64Sc T hr))| ≤ w.err) &&
                decide (|z' - 90 * (180 * f64Sc T mi / (2 * f64Sc T hr))| ≤ w'.err)
              | _, _ => false)
           | _, _ => false)
        | _, _ => false)
     | _, _ => false)) = true := by
  decide +kernel

end Qty.C13
