import QtyModel.Ops
import QtyModel.Generated.Algos
/- Tie between code and model: the definitions re-emitted from the Rust source (`Generated/Algos.lean`) ARE
   the model's, for which trait method `/` of a quantity type WITH a reference unit forwards to. -/
namespace Qty.AlgoTie
open Qty.Gen.Algos

variable {A U : Type} [DecidableEq U]
variable (R : Arith A) (T : QT A U)

theorem withRef_div (a b : Q A U) : Kind.withRef.div R T a b = hrDiv R T a b := rfl

end Qty.AlgoTie
