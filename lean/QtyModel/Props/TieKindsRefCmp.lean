import QtyModel.Ops
import QtyModel.Generated.Algos
/- Tie between code and model: the definitions re-emitted from the Rust source (`Generated/Algos.lean`) ARE
   the model's, for which trait method `==` and `partial_cmp` of a quantity type WITH a reference unit
   forward to. -/
namespace Qty.AlgoTie
open Qty.Gen.Algos

variable {A U : Type} [DecidableEq U]
variable (R : Arith A) (T : QT A U)

theorem withRef_eq (a b : Q A U) : Kind.withRef.eq R T a b = hrEq R T a b := rfl
theorem withRef_partial_cmp (a b : Q A U) : Kind.withRef.partial_cmp R T a b = hrPcmp R T a b := rfl

end Qty.AlgoTie
