import QtyModel.F64Text
import QtyModel.Lemmas.Digits
import QtyModel.Lemmas.F64Canonical
import QtyModel.Lemmas.Basic
import QtyModel.Lemmas.F64Laws
import QtyModel.Lemmas.RoundHalfEven
/-
  C15 (binary64 back-end) — the amount text `F64.absText` computed by the model
  (`QtyModel/F64Text.lean`, validated against `core::fmt::Display for f64` and `f64::from_str` of
  Rust 1.95 by the correspondence run, DESIGN §4 C15):

  (a) the search returns what it finds on the first grid, from coarse to fine, on which a
      neighbour of `x` reads back as `x` (`shortest_minimal`; `pick`, `shortest_spec`);
  (b) shape: digits with at most one `.`; exactly `p` fractional digits for `{:.p}`;
  (c) `{:.p}` is correctly rounded: the text denotes a value within `½·10⁻ᵖ` of `|x|`;
  (d) `{}` round-trips: reading the text back (`F64.parseText`, correctly rounded) gives `|x|`;
  (e) bit-exact round trip of the SIGNED text for every canonical datum / every bit pattern;
  (f) `round` is monotone, so what reads back as `x` is an interval (`readback_convex`), hence `{}`
      prints THE shortest text: no decimal on a coarser grid and no decimal with fewer digits reads
      back as `x`, and on its grid the text is the closest one to `|x|` among those that read back.

  Both `{:.p}` and `{}` print `fixedText`/`decText` of a grid point; what is said about such texts and
  about reading them is in `Lemmas/Digits.lean` (`Plain`).
-/
namespace Qty.C15F64
open Qty.Fmt Qty.Digits Qty.F64

theorem decVal_eq (D : ℕ) (k : ℤ) : decVal D k = (D : ℚ) * 10 ^ k := by
  rw [← ite_toNat_zpow]; simp only [decVal, pow10_eq]; push_cast; rfl

theorem decVal_zero (k : ℤ) : decVal 0 k = 0 := by rw [decVal_eq]; simp

theorem decVal_mono {D1 D2 : ℕ} (h : D1 ≤ D2) (k : ℤ) : decVal D1 k ≤ decVal D2 k := by
  rw [decVal_eq, decVal_eq]
  exact mul_le_mul_of_nonneg_right (by exact_mod_cast h) (ten_zpow_pos k).le

theorem decVal_nonneg (D : ℕ) (k : ℤ) : 0 ≤ decVal D k := by
  rw [decVal_eq]
  exact mul_nonneg (Nat.cast_nonneg _) (ten_zpow_pos k).le

/-- trailing zeros of the digits move into the exponent -/
theorem decVal_mul_pow (D a : ℕ) (k : ℤ) : decVal (D * 10 ^ a) k = decVal D (a + k) := by
  rw [decVal_eq, decVal_eq, zpow_add₀ (by norm_num), zpow_natCast]; push_cast; ring

/-- digits `D 0…0` (`a` zeros) with the point `l` places from the right and the exponent `x` -/
theorem decVal_of_shift {N D a l : ℕ} {x k : ℤ} (hN : N = D * 10 ^ a) (hk : (a : ℤ) - l + x = k) :
    (N : ℚ) / 10 ^ l * 10 ^ x = decVal D k := by
  subst hN hk
  rw [show (a : ℤ) - l + x = a + (x - l) by ring, ← decVal_mul_pow, decVal_eq,
    zpow_sub₀ (by norm_num), zpow_natCast]
  ring

/-- `decText D k` is the text of `D · 10^k` -/
theorem decText_plain (D : Nat) (k : Int) :
    Plain (decText D k) (D * 10 ^ k.toNat) (-k).toNat ∧
      ((D * 10 ^ k.toNat : ℕ) : ℚ) / 10 ^ (-k).toNat = decVal D k := by
  have hv := decVal_of_shift (N := D * 10 ^ k.toNat) (a := k.toNat) (l := (-k).toNat) (x := 0) (k := k)
    rfl (by omega)
  rw [zpow_zero, mul_one] at hv
  refine ⟨?_, hv⟩
  unfold decText
  by_cases hk : k ≥ 0
  · have : (-k).toNat = 0 := by omega
    rw [if_pos hk, this]; exact natDigits_plain _
  · have : k.toNat = 0 := by omega
    rw [if_neg hk, this, pow_zero, Nat.mul_one]; exact fixedText_plain _ _

/-! ### (a) the search: the first grid on which a neighbour reads back -/

/-- the lower neighbour `⌊x / 10^k⌋` of `x = A / B` on the grid `10^k` -/
def gridLo (A B : Nat) (k : Int) : Nat := A * 10 ^ (-k).toNat / (B * 10 ^ k.toNat)

/-- what the search does on the grid `10^k`: it takes the lower neighbour of `A / B` if that reads
back and is strictly closer than an upper neighbour that reads back too, else the upper neighbour
if that reads back -/
def pick (tgt : F64) (A B : Nat) (k : Int) : Option (Nat × Int) :=
  if round (decVal (gridLo A B k) k) false = tgt ∧
      (round (decVal (gridLo A B k + 1) k) false = tgt →
        2 * (A * 10 ^ (-k).toNat % (B * 10 ^ k.toNat)) < B * 10 ^ k.toNat)
  then some (gridLo A B k, k)
  else if round (decVal (gridLo A B k + 1) k) false = tgt then some (gridLo A B k + 1, k)
  else none

theorem shortAux_succ (tgt : F64) (A B : Nat) (ex : Nat × Int) (fuel : Nat) (k : Int) :
    shortAux tgt A B ex (fuel + 1) k = (pick tgt A B k).getD (shortAux tgt A B ex fuel (k - 1)) := by
  rw [shortAux]
  unfold pick gridLo
  by_cases lo : round (decVal (A * 10 ^ (-k).toNat / (B * 10 ^ k.toNat)) k) false = tgt <;>
  by_cases hi : round (decVal (A * 10 ^ (-k).toNat / (B * 10 ^ k.toNat) + 1) k) false = tgt <;>
  simp only [lo, hi, decide_true, decide_false, Bool.and_self, Bool.and_false, Bool.false_and,
    if_true, if_false, true_and, false_and, true_imp_iff, false_imp_iff, Bool.false_eq_true,
    Option.getD_some, Option.getD_none]
  split <;> rfl

/-- the search returns what `pick` finds on the first grid, from `k0` downwards, on which it finds
something, and the exact digits if it finds nothing on the `fuel` grids it tries -/
theorem shortAux_spec (tgt : F64) (A B : Nat) (ex : Nat × Int) : ∀ (fuel : Nat) (k0 : Int),
    ((∃ k, k0 - fuel < k ∧ k ≤ k0 ∧ pick tgt A B k = some (shortAux tgt A B ex fuel k0) ∧
        ∀ k', k < k' → k' ≤ k0 → pick tgt A B k' = none) ∨
      (shortAux tgt A B ex fuel k0 = ex ∧
        ∀ k', k0 - fuel < k' → k' ≤ k0 → pick tgt A B k' = none)) := by
  intro fuel
  induction fuel with
  | zero => intro k0; exact Or.inr ⟨rfl, fun k' h1 h2 => by simp at h1; omega⟩
  | succ fuel ih =>
    intro k0
    rw [shortAux_succ]
    cases hp : pick tgt A B k0 with
    | some r => exact Or.inl ⟨k0, by push_cast; omega, le_refl _, hp, fun k' h1 h2 => by omega⟩
    | none =>
      have step : ∀ k', k' ≤ k0 → ¬ k' ≤ k0 - 1 → pick tgt A B k' = none := fun k' h1 h2 => by
        rw [show k' = k0 by omega, hp]
      rcases ih (k0 - 1) with ⟨k, h1, h2, h3, h4⟩ | ⟨h1, h2⟩
      · exact Or.inl ⟨k, by push_cast; omega, by omega, h3, fun k' a b =>
          if c : k' ≤ k0 - 1 then h4 k' a c else step k' b c⟩
      · exact Or.inr ⟨h1, fun k' a b =>
          if c : k' ≤ k0 - 1 then h2 k' (by push_cast at a; omega) c else step k' b c⟩

theorem pick_none {tgt : F64} {A B : Nat} {k : Int} :
    pick tgt A B k = none ↔ round (decVal (gridLo A B k) k) false ≠ tgt ∧
      round (decVal (gridLo A B k + 1) k) false ≠ tgt := by
  unfold pick
  split_ifs with h1 h2
  · simp [h1.1]
  · simp [h2]
  · have : ¬ round (decVal (gridLo A B k) k) false = tgt := fun h => h1 ⟨h, fun h' => absurd h' h2⟩
    simp [this, h2]

/-- what `pick` returns lies on the grid, reads back, and is the closer neighbour if both read back
(the upper one on a tie) -/
theorem pick_some {tgt : F64} {A B : Nat} {k : Int} {r : Nat × Int} (h : pick tgt A B k = some r) :
    r.2 = k ∧ round (decVal r.1 k) false = tgt ∧
    ((r.1 = gridLo A B k ∧ (round (decVal (gridLo A B k + 1) k) false = tgt →
        2 * (A * 10 ^ (-k).toNat % (B * 10 ^ k.toNat)) < B * 10 ^ k.toNat)) ∨
     (r.1 = gridLo A B k + 1 ∧ (round (decVal (gridLo A B k) k) false = tgt →
        B * 10 ^ k.toNat ≤ 2 * (A * 10 ^ (-k).toNat % (B * 10 ^ k.toNat))))) := by
  unfold pick at h
  split_ifs at h with h1 h2 <;> obtain rfl := Option.some.inj h
  · exact ⟨rfl, h1.1, Or.inl ⟨rfl, h1.2⟩⟩
  · exact ⟨rfl, h2, Or.inr ⟨rfl, fun hl => not_lt.mp fun hlt => h1 ⟨hl, fun _ => hlt⟩⟩⟩

theorem decVal_exactDigits (m : Nat) (e : Int) :
    decVal (exactDigits m e).1 (exactDigits m e).2 = (m : ℚ) * 2 ^ e := by
  rw [decVal_eq]
  unfold exactDigits
  split
  · next h => rw [zpow_toNat h]; simp
  · next h =>
    rw [zpow_neg_toNat (b := 10) (by omega), zpow_neg_toNat (b := 2) (by omega),
      show (10 : ℚ) = 2 * 5 by norm_num, mul_pow]
    push_cast
    field_simp

/-- `shortest m e` is what `pick` finds on the first grid, from `startExp m e` downwards, on which it
finds something; the fuel reaches the grid of the exact digits -/
theorem shortest_spec (m : Nat) (e : Int) :
    (∃ k, k ≤ startExp m e ∧ pick (canon m e) (absNum m e) (absDen e) k = some (shortest m e) ∧
      ∀ k', k < k' → k' ≤ startExp m e → pick (canon m e) (absNum m e) (absDen e) k' = none) ∨
    (shortest m e = exactDigits m e ∧ ∀ k', (exactDigits m e).2 < k' → k' ≤ startExp m e →
      pick (canon m e) (absNum m e) (absDen e) k' = none) := by
  have hf : startExp m e - ((startExp m e - (if e ≥ 0 then 0 else e) + 1).toNat : ℕ)
      ≤ (exactDigits m e).2 := by
    unfold exactDigits; split <;> simp only <;> omega
  rcases shortAux_spec (canon m e) (absNum m e) (absDen e) (exactDigits m e)
    ((startExp m e - (if e ≥ 0 then 0 else e) + 1).toNat) (startExp m e) with ⟨k, -, h⟩ | ⟨h1, h2⟩
  · exact Or.inl ⟨k, h⟩
  · exact Or.inr ⟨h1, fun k' a b => h2 k' (by omega) b⟩

theorem canon_eq (m : Nat) (e : Int) : canon m e = round ((m : ℚ) * 2 ^ e) false := by
  unfold canon; rw [pow2_eq]; simp

theorem canon_val {m : ℕ} {e : ℤ} (hm : m < two53) (h1 : eMin ≤ e) (h2 : e ≤ eMax) :
    val (canon m e) = some ((m : ℚ) * 2 ^ e) := by
  rw [canon_eq, ← tr_false]
  exact round_exact' false m e false hm h1 h2

/-- the shortest digits read back as the canonical datum of `m · 2^e` -/
theorem shortest_ok (m : Nat) (e : Int) :
    round (decVal (shortest m e).1 (shortest m e).2) false = canon m e := by
  rcases shortest_spec m e with ⟨k, -, h, -⟩ | ⟨h, -⟩
  · obtain ⟨h1, h2, -⟩ := pick_some h
    rw [h1]; exact h2
  · rw [h, decVal_exactDigits, canon_eq]

/-- (a): for `(D, k) = shortest m e` no neighbour of `m · 2^e` on a grid `10^k'`,
`k < k' ≤ startExp m e`, reads back as `m · 2^e` -/
theorem shortest_minimal (m : Nat) (e : Int) (k' : Int) (h1 : (shortest m e).2 < k')
    (h2 : k' ≤ startExp m e) :
    round (decVal (gridLo (absNum m e) (absDen e) k') k') false ≠ canon m e ∧
    round (decVal (gridLo (absNum m e) (absDen e) k' + 1) k') false ≠ canon m e := by
  apply pick_none.mp
  rcases shortest_spec m e with ⟨k, -, h, hn⟩ | ⟨h, hn⟩
  · exact hn k' (by rw [← (pick_some h).1]; exact h1) h2
  · exact hn k' (by rw [← h]; exact h1) h2

/-! ### (b) shape -/

theorem absText_some (p : Nat) (s : Bool) (m : Nat) (e : Int) :
    absText (some p) (.fin s m e) = fixedText (fixedDigits m e p) p := rfl

/-- the text printed without a precision is the text of a decimal that reads back as the
canonical datum of `|x|` (for ANY `m`, `e`) -/
theorem absText_none_plain (s : Bool) (m : Nat) (e : Int) :
    ∃ N nf, Plain (absText none (.fin s m e)) N nf ∧ round ((N : ℚ) / 10 ^ nf) false = canon m e := by
  by_cases hm : m = 0
  · subst hm
    exact ⟨0, 0, natDigits_plain 0, by simp [canon_eq]⟩
  · obtain ⟨h1, h2⟩ := decText_plain (shortest m e).1 (shortest m e).2
    refine ⟨_, _, ?_, by rw [h2, shortest_ok]⟩
    simpa [absText, hm] using h1

/-- the text of a finite double is plain for every precision, with as many fractional digits as
the precision asks for -/
theorem absText_plain (prec : Option Nat) (s : Bool) (m : Nat) (e : Int) :
    ∃ N nf, Plain (absText prec (.fin s m e)) N nf ∧ ∀ p, prec = some p → nf = p := by
  cases prec with
  | some p => exact ⟨_, p, absText_some p s m e ▸ fixedText_plain _ _, fun q hq => (Option.some.inj hq)⟩
  | none =>
    obtain ⟨N, nf, h, -⟩ := absText_none_plain s m e
    exact ⟨N, nf, h, fun p hp => by cases hp⟩

/-- (b) SHAPE.  The text of `|x|` for a finite `x` consists of digits and at most one `.`;
it starts with a digit; with a precision `p` it has a `.` iff `p ≠ 0`, followed by exactly
`p` digits. -/
theorem absText_shape (prec : Option Nat) (s : Bool) (m : Nat) (e : Int) :
    (∀ c ∈ absText prec (.fin s m e), Case.isDigit c = true ∨ c = 46) ∧
    (absText prec (.fin s m e)).count 46 ≤ 1 ∧
    (∃ c r, absText prec (.fin s m e) = c :: r ∧ Case.isDigit c = true) ∧
    ∀ p, prec = some p →
      (absText prec (.fin s m e)).count 46 = (if p = 0 then 0 else 1) ∧
      (p ≠ 0 → (((absText prec (.fin s m e)).dropWhile (· != 46)).drop 1).length = p ∧
        (((absText prec (.fin s m e)).dropWhile (· != 46)).drop 1).all Case.isDigit = true) := by
  obtain ⟨N, nf, hpl, hnf⟩ := absText_plain prec s m e
  refine ⟨hpl.chars, ?_, hpl.head, ?_⟩
  · rw [hpl.dots]; split <;> omega
  · intro p hp
    have := hnf p hp
    subst this
    exact ⟨hpl.dots, hpl.frac⟩

theorem absText_inf (prec : Option Nat) (s : Bool) : absText prec (.inf s) = infText := rfl
theorem absText_nan (prec : Option Nat) : absText prec .nan = nanText := rfl

theorem absText_no_minus (prec : Option Nat) (x : F64) : (absText prec x).count 45 = 0 := by
  cases x with
  | nan => rw [absText_nan]; decide
  | inf s => rw [absText_inf]; decide
  | fin s m e =>
    obtain ⟨N, nf, h, -⟩ := absText_plain prec s m e
    exact h.count_minus

/-! ### (c) `{:.p}` is correctly rounded -/

theorem absDen_pos (e : Int) : 0 < absDen e := by
  unfold absDen; split
  · exact Nat.one_pos
  · exact Nat.pow_pos (by decide)

theorem absNum_div_absDen (m : Nat) (e : Int) :
    ((absNum m e : ℕ) : ℚ) / ((absDen e : ℕ) : ℚ) = (m : ℚ) * 2 ^ e := by
  unfold absNum absDen
  split
  · next h => rw [zpow_toNat h]; simp
  · next h => rw [zpow_neg_toNat (by omega), div_eq_mul_inv]; simp

theorem fixedDigits_bound (m : Nat) (e : Int) (p : Nat) :
    |((fixedDigits m e p : ℕ) : ℚ) - (m : ℚ) * 2 ^ e * 10 ^ p| ≤ 1 / 2 := by
  have h := rhe_toNat_bound ((absNum m e * 10 ^ p : ℕ) : ℤ) ((absDen e : ℕ) : ℤ)
    (Int.natCast_nonneg _) (by exact_mod_cast absDen_pos e)
  have e2 : (((absNum m e * 10 ^ p : ℕ) : ℤ) : ℚ) / (((absDen e : ℕ) : ℤ) : ℚ)
      = (m : ℚ) * 2 ^ e * 10 ^ p := by
    rw [← absNum_div_absDen]; push_cast; ring
  rwa [e2] at h

/-- (c) CORRECT ROUNDING.  With a precision `p` the text of `fin s m e` is a decimal with exactly
`p` fractional digits whose value differs from `|x| = m · 2^e` by at most `½·10⁻ᵖ`. -/
theorem absText_prec_correct (s : Bool) (m : Nat) (e : Int) (p : Nat) :
    ∃ v, parseDecText (absText (some p) (.fin s m e)) = some (v, p) ∧
      |v - (m : ℚ) * 2 ^ e| ≤ 1 / (2 * (10 : ℚ) ^ p) :=
  (fixedText_plain (fixedDigits m e p) p).parseDec_close false (fixedDigits_bound m e p)

/-- (c) in terms of the value of the datum -/
theorem absText_prec_correct_val (x : F64) (q : ℚ) (hx : x.val = some q) (p : Nat) :
    ∃ v, parseDecText (absText (some p) x) = some (v, p) ∧ |v - abs q| ≤ 1 / (2 * (10 : ℚ) ^ p) := by
  obtain ⟨s, m, e, rfl, -, -, -, rfl⟩ := val_some hx
  rw [abs_tr]
  exact absText_prec_correct s m e p

/-! ### (d) `{}` round-trips -/

/-- `f64::from_str` on an optional minus and a plain decimal text: the decimal, rounded once, the
sign of an exact zero being the sign of the text -/
theorem parseText_plain {t : Text} {N nf : Nat} (h : Plain t N nf) (s : Bool) :
    parseText (signText s ++ t)
      = some (round (if s then -((N : ℚ) / 10 ^ nf) else (N : ℚ) / 10 ^ nf) s) := by
  obtain ⟨c, r, rfl, hc⟩ := id h.head   -- `id`: `rfl` must not substitute inside `h`
  have h1 : c ≠ 105 ∧ c ≠ 78 ∧ c ≠ 45 := by simp [Case.isDigit] at hc; omega
  unfold F64.parseText
  rw [h.parseDec, h.head_minus]
  cases s <;> simp [signText, infText, nanText, h1]

theorem parseText_decText (D : Nat) (k : Int) :
    parseText (decText D k) = some (round (decVal D k) false) := by
  obtain ⟨h1, h2⟩ := decText_plain D k
  rw [← h2]; exact parseText_plain h1 false

/-- reading the shortest text back gives the canonical datum of `|x|` (for ANY `m`, `e`) -/
theorem parseText_absText_none (s : Bool) (m : Nat) (e : Int) :
    parseText (absText none (.fin s m e)) = some (round ((m : ℚ) * 2 ^ e) false) := by
  obtain ⟨N, nf, h, hq⟩ := absText_none_plain s m e
  rw [← canon_eq, ← hq]; exact parseText_plain h false

/-- (d) ROUND TRIP.  For every finite well-formed `x` with value `q`, the text printed without
a precision reads back (correctly rounded, as `f64::from_str` does) as a double whose value is
exactly `|q|` — namely the canonical datum `round |q|` of `|x|`. -/
theorem absText_none_roundtrip (x : F64) (q : ℚ) (hx : x.val = some q) :
    ∃ y, parseText (absText none x) = some y ∧ y.val = some |q| ∧ y = round |q| false := by
  obtain ⟨s, m, e, rfl, hm, h1, h2, rfl⟩ := val_some hx
  rw [abs_tr]
  exact ⟨_, parseText_absText_none s m e, (canon_eq m e) ▸ canon_val hm h1 h2, rfl⟩

/-! ### (e) bit-exact round trip of the signed text for canonical data -/

/-- a sign in front of a magnitude that rounds to the magnitude of a canonical datum gives the
datum: how both readers get the sign (of zero too) right -/
theorem round_signed {s : Bool} {m : ℕ} {e : ℤ} (hc : Canonical (.fin s m e)) {q : ℚ}
    (hq : round q false = canon m e) : round (if s then -q else q) s = .fin s m e :=
  round_apply_sign (hq.trans ((canon_eq m e).trans (round_mag_canonical hc))) s

theorem text_fin (prec : Option Nat) (s : Bool) (m : ℕ) (e : ℤ) :
    text prec (.fin s m e) = signText s ++ absText prec (.fin s m e) := by cases s <;> rfl

/-- (e) BIT-EXACT ROUND TRIP of the signed text printed without a precision: every canonical
datum — in particular everything `ofBits` produces: zeros of both signs, subnormals, normal
numbers, infinities, NaN — reads back as itself. -/
theorem text_none_roundtrip (x : F64) (hc : Canonical x) : parseText (text none x) = some x := by
  cases x with
  | nan => decide
  | inf s => cases s <;> decide
  | fin s m e =>
    obtain ⟨N, nf, hp, hq⟩ := absText_none_plain s m e
    rw [text_fin, parseText_plain hp, round_signed hc hq]

/-- every bit pattern: print without a precision, read back, same datum -/
theorem text_none_roundtrip_bits (b : Nat) :
    parseText (text none (ofBits b)) = some (ofBits b) :=
  text_none_roundtrip _ (ofBits_canonical b)

/-! ### (f) the text is the shortest one that round-trips -/

/-- a non-zero well-formed magnitude `m · 2^e` -/
def WfPos (m : ℕ) (e : ℤ) : Prop := m ≠ 0 ∧ m < two53 ∧ eMin ≤ e ∧ e ≤ eMax

theorem WfPos.pos {m : ℕ} {e : ℤ} (w : WfPos m e) : (0 : ℚ) < (m : ℚ) * 2 ^ e := mul_P_pos w.1 e

theorem WfPos.canon_val {m : ℕ} {e : ℤ} (w : WfPos m e) : val (canon m e) = some ((m : ℚ) * 2 ^ e) :=
  C15F64.canon_val w.2.1 w.2.2.1 w.2.2.2

/-- `x = A / B` on the grid `10^k`: its lower neighbour `L` and the fraction `f` of a grid step
beyond it; the search compares `f` with one half -/
theorem grid_frac (A B : ℕ) (hB : 0 < B) (k : ℤ) :
    ∃ f : ℚ, 0 ≤ f ∧ f < 1 ∧ (A : ℚ) / B = ((gridLo A B k : ℚ) + f) * 10 ^ k ∧
      (2 * (A * 10 ^ (-k).toNat % (B * 10 ^ k.toNat)) < B * 10 ^ k.toNat ↔ f < 1 / 2) := by
  unfold gridLo
  have hden : 0 < B * 10 ^ k.toNat := Nat.mul_pos hB (Nat.pow_pos (by decide))
  have hdm := Nat.div_add_mod (A * 10 ^ (-k).toNat) (B * 10 ^ k.toNat)
  have hr := Nat.mod_lt (A * 10 ^ (-k).toNat) hden
  generalize A * 10 ^ (-k).toNat / (B * 10 ^ k.toNat) = L at hdm ⊢
  generalize A * 10 ^ (-k).toNat % (B * 10 ^ k.toNat) = r at hdm hr ⊢
  have hd0 : (0 : ℚ) < ((B * 10 ^ k.toNat : ℕ) : ℚ) := Nat.cast_pos.mpr hden
  -- with `den · L + r = num`, the lower neighbour plus the fraction is `num / den`
  have hL : (L : ℚ) + r / ((B * 10 ^ k.toNat : ℕ) : ℚ)
      = ((A * 10 ^ (-k).toNat : ℕ) : ℚ) / ((B * 10 ^ k.toNat : ℕ) : ℚ) := by
    rw [← hdm, Nat.cast_add, Nat.cast_mul _ L, add_div, mul_div_cancel_left₀ _ hd0.ne']
  refine ⟨r / ((B * 10 ^ k.toNat : ℕ) : ℚ), div_nonneg (Nat.cast_nonneg r) hd0.le,
    (div_lt_one hd0).mpr (Nat.cast_lt.mpr hr), ?_, ?_⟩
  · -- the powers of ten that made numerator and denominator integers cancel against `10^k`
    rw [hL, ten_zpow_split k]
    push_cast
    rw [div_mul_div_comm, mul_right_comm (B : ℚ), mul_div_mul_right _ _ (ten_pow_pos _).ne',
      mul_div_mul_right _ _ (ten_pow_pos _).ne']
  · rw [div_lt_iff₀ hd0, one_div, inv_mul_eq_div, lt_div_iff₀' two_pos]
    norm_cast

/-- the neighbour `r` the search takes is at least as close to `L + f` as any natural `D'`;
`h`: `r = L` if `D'` lies above and `f < ½` whenever the upper neighbour is a candidate, `r = L + 1`
if `D'` lies below and `f ≥ ½` whenever the lower one is -/
theorem closer_aux {r D' L : ℕ} {f : ℚ} (h0 : 0 ≤ f) (h1 : f < 1)
    (h : (r = L ∧ (L < D' → f < 1 / 2)) ∨ (r = L + 1 ∧ (D' ≤ L → 1 / 2 ≤ f))) :
    |(r : ℚ) - (L + f)| ≤ |(D' : ℚ) - (L + f)| := by
  -- the two neighbours are `f` and `1 - f` away; a natural above is at least `1 - f` away, one
  -- below at least `f`
  have eL : |(L : ℚ) - (L + f)| = f := by rw [sub_add_cancel_left, abs_neg, abs_of_nonneg h0]
  have eU : |((L + 1 : ℕ) : ℚ) - (L + f)| = 1 - f := by
    rw [Nat.cast_add_one, add_sub_add_left_eq_sub, abs_of_pos (sub_pos.mpr h1)]
  rcases Nat.lt_or_ge L D' with hlt | hge
  · have hD : 1 - f ≤ |(D' : ℚ) - (L + f)| := by
      have : (L : ℚ) + 1 ≤ D' := by exact_mod_cast hlt
      exact (le_abs_self _).trans' (by linarith only [this])
    rcases h with ⟨rfl, h⟩ | ⟨rfl, -⟩
    · rw [eL]; exact le_trans (by linarith only [h hlt]) hD
    · rw [eU]; exact hD
  · have hD : f ≤ |(D' : ℚ) - (L + f)| := by
      have : (D' : ℚ) ≤ L := by exact_mod_cast hge
      exact (neg_le_abs _).trans' (by linarith only [this])
    rcases h with ⟨rfl, -⟩ | ⟨rfl, h⟩
    · rw [eL]; exact hD
    · rw [eU]; exact le_trans (by linarith only [h hge]) hD

/-- what reads back as the finite non-zero `x` is positive and below `2^1024` -/
theorem readback_range {m : ℕ} {e : ℤ} (w : WfPos m e) {q : ℚ} (h0 : 0 ≤ q)
    (h : round q false = canon m e) : 0 < q ∧ q < 2 ^ (1024 : ℤ) := by
  have hx := w.pos
  have hv := w.canon_val
  rw [← h] at hv
  constructor
  · rcases lt_or_eq_of_le h0 with h0 | rfl
    · exact h0
    · rw [val_round_zero] at hv
      have := Option.some.inj hv
      linarith
  · by_contra hbig
    rw [round_big _ _ (not_lt.mp hbig), val_inf] at hv
    cases hv

/-- what reads back as `x` is an interval -/
theorem readback_convex {m : ℕ} {e : ℤ} (w : WfPos m e) {a b c : ℚ} (h0 : 0 ≤ a)
    (ha : round a false = canon m e) (hc : round c false = canon m e) (hab : a ≤ b) (hbc : b ≤ c) :
    round b false = canon m e := by
  have := round_sandwich false (readback_range w h0 ha).1 hab hbc
    (readback_range w (le_trans h0 (le_trans hab hbc)) hc).2 (by rw [ha, hc])
  rw [this, ha]

/-- if ANY decimal on the grid `10^k'` reads back as `x = m · 2^e`, then so does the neighbour of `x`
on that grid (one of the two the search looks at) on the same side of `x` -/
theorem grid_neighbour {m : ℕ} {e : ℤ} (w : WfPos m e) (D' : ℕ) (k' : ℤ)
    (h : round (decVal D' k') false = canon m e) :
    (D' ≤ gridLo (absNum m e) (absDen e) k' →
      round (decVal (gridLo (absNum m e) (absDen e) k') k') false = canon m e) ∧
    (gridLo (absNum m e) (absDen e) k' < D' →
      round (decVal (gridLo (absNum m e) (absDen e) k' + 1) k') false = canon m e) := by
  obtain ⟨f, f0, f1, hx, -⟩ := grid_frac (absNum m e) (absDen e) (absDen_pos e) k'
  rw [absNum_div_absDen] at hx
  have hc := ten_zpow_pos k'
  have hs := (canon_eq m e).symm
  generalize gridLo (absNum m e) (absDen e) k' = L at hx ⊢
  -- `x = (L + f)·10^k'` lies between the two neighbours `L·10^k'` and `(L+1)·10^k'`
  constructor <;> intro hD
  · refine readback_convex w (decVal_nonneg D' k') h hs (decVal_mono hD k') ?_
    rw [decVal_eq, hx]
    exact mul_le_mul_of_nonneg_right (le_add_of_nonneg_right f0) hc.le
  · refine readback_convex w w.pos.le hs h ?_ (decVal_mono hD k')
    rw [decVal_eq, hx, Nat.cast_add_one]
    exact mul_le_mul_of_nonneg_right ((add_le_add_iff_left _).mpr f1.le) hc.le

/-- the start-grid inequality `2^t ≤ 10^(⌊(t+1)·0.30103⌋+2)` for `t = n ≥ 0` -/
def boundPos (n : ℕ) : Bool := Nat.ble (2 ^ n) (10 ^ ((n + 1) * 30103 / 100000 + 2))

/-- the start-grid inequality for `t = -n < 0`, where the exponent of ten is `2 - c` with
`c = ⌈(n-1)·0.30103⌉` -/
def boundNeg (n : ℕ) : Bool :=
  decide (((n - 1) * 30103 + 99999) / 100000 ≤ 2) ||
    Nat.ble (10 ^ (((n - 1) * 30103 + 99999) / 100000 - 2)) (2 ^ n)

theorem boundPos_range : (List.range 1025).all boundPos = true := by decide +kernel
theorem boundNeg_range : (List.range 1074).all boundNeg = true := by decide +kernel

/-- `2^(fl+1) ≤ 10^(startExp+1)`: not derived from `log₁₀ 2 < 0.30103` but checked by the kernel for
each exponent `fl + 1 ∈ [-1073, 1024]` (`boundPos_range`, `boundNeg_range`); for a negative exponent
the floor in `startExp` is minus a ceiling (`ceil`) and the inequality is read between the inverses -/
theorem start_bound (fl : ℤ) (h1 : -1074 ≤ fl) (h2 : fl ≤ 1023) :
    (2 : ℚ) ^ (fl + 1) ≤ 10 ^ ((fl + 2) * 30103 / 100000 + 2) := by
  rcases le_or_gt 0 (fl + 1) with h | h
  · obtain ⟨n, hn⟩ := Int.eq_ofNat_of_zero_le h
    have hb := List.all_eq_true.mp boundPos_range n (List.mem_range.mpr (by omega))
    have e : (fl + 2) * 30103 / 100000 + 2 = (((n + 1) * 30103 / 100000 + 2 : ℕ) : ℤ) := by
      rw [show fl + 2 = (n : ℤ) + 1 by omega]; rfl
    rw [hn, e, zpow_natCast, zpow_natCast]
    exact_mod_cast Nat.le_of_ble_eq_true hb
  · obtain ⟨n, hn⟩ := Int.eq_ofNat_of_zero_le (show 0 ≤ -(fl + 1) by omega)
    have hb := List.all_eq_true.mp boundNeg_range n (List.mem_range.mpr (by omega))
    -- the floor of a negative quotient is minus a ceiling
    have e : (fl + 2) * 30103 / 100000 + 2
        = 2 - ((((n - 1) * 30103 + 99999) / 100000 : ℕ) : ℤ) := by omega
    rw [e, show fl + 1 = -(n : ℤ) by omega]
    unfold boundNeg at hb
    generalize ((n - 1) * 30103 + 99999) / 100000 = c at hb ⊢
    rcases Nat.lt_or_ge 2 c with hc | hc
    · have hb : Nat.ble (10 ^ (c - 2)) (2 ^ n) = true := by
        simpa [Nat.not_le.mpr hc] using hb
      rw [show (2 : ℤ) - c = -((c - 2 : ℕ) : ℤ) by omega, zpow_neg, zpow_neg, zpow_natCast,
        zpow_natCast]
      exact inv_anti₀ (ten_pow_pos _) (by exact_mod_cast Nat.le_of_ble_eq_true hb)
    · calc (2 : ℚ) ^ (-(n : ℤ)) ≤ 1 := zpow_le_one_of_nonpos₀ (by norm_num) (by omega)
        _ ≤ 10 ^ (2 - (c : ℤ)) := one_le_zpow₀ (by norm_num) (by omega)

/-- no decimal on a grid coarser than the first one tried reads back as `x`: it is at least
`10^(startExp+1) ≥ 2^(fl+1) > x` (`fl` the binade of `x`), and `2^(fl+1)`, a double other than `x`,
would read back as `x` too -/
theorem above_start {m : ℕ} {e : ℤ} (w : WfPos m e) (D' : ℕ) (k' : ℤ) (hk : startExp m e < k')
    (h : round (decVal D' k') false = canon m e) : False := by
  have ⟨hm0, hm, h1, h2⟩ := w
  obtain ⟨hc0, hclt⟩ := readback_range w (decVal_nonneg D' k') h
  have hl52 : m.log2 < 53 := (Nat.log2_lt hm0).mpr hm
  have hv := w.canon_val
  unfold eMin at h1
  unfold eMax at h2
  have hsb := start_bound ((m.log2 : ℤ) + e) (by omega) (by omega)
  unfold startExp at hk
  generalize hfl : (m.log2 : ℤ) + e = fl at hsb hk
  have hxP : (m : ℚ) * 2 ^ e < 2 ^ (fl + 1) := by
    rw [show fl + 1 = (m.log2 : ℤ) + 1 + e by omega, P_add]
    exact mul_lt_mul_of_pos_right (nat_log2_bounds m hm0).2 (P_pos e)
  have hPc : (2 : ℚ) ^ (fl + 1) ≤ decVal D' k' := by
    have hten := ten_zpow_pos k'
    have hD : (1 : ℚ) ≤ D' := Nat.one_le_cast.mpr (Nat.pos_of_ne_zero fun h0 => by
      rw [h0, decVal_zero] at hc0; exact lt_irrefl _ hc0)
    calc (2 : ℚ) ^ (fl + 1) ≤ 10 ^ ((fl + 2) * 30103 / 100000 + 2) := hsb
      _ ≤ 10 ^ k' := zpow_le_zpow_right₀ (by norm_num) (by omega)
      _ ≤ D' * 10 ^ k' := le_mul_of_one_le_left hten.le hD
      _ = decVal D' k' := (decVal_eq D' k').symm
  have hs := readback_convex w w.pos.le (canon_eq m e).symm h hxP.le hPc
  have hvP := round_pow2 (fl + 1) (by omega) (P_lt_of_le_of_lt hPc hclt) false
  rw [hs, hv] at hvP
  exact absurd (Option.some.inj hvP) hxP.ne

/-- (f) SHORTEST.  For a well-formed non-zero `x = m · 2^e` and `(D, k) = shortest m e` (the text
is `D · 10^k`): NO decimal `D' · 10^k'` on a coarser grid `k' > k` reads back as `x`. -/
theorem shortest_coarsest {m : ℕ} {e : ℤ} (w : WfPos m e) (D' : ℕ) (k' : ℤ)
    (h : round (decVal D' k') false = canon m e) : k' ≤ (shortest m e).2 := by
  by_contra hlt
  rw [not_le] at hlt
  rcases le_or_gt k' (startExp m e) with hk | hk
  · obtain ⟨n1, n2⟩ := shortest_minimal m e k' hlt hk
    obtain ⟨g1, g2⟩ := grid_neighbour w D' k' h
    rcases Nat.lt_or_ge (gridLo (absNum m e) (absDen e) k') D' with c | c
    · exact n2 (g2 c)
    · exact n1 (g1 c)
  · exact above_start w D' k' hk h

/-- (f) CLOSEST.  Among the decimals on the grid of the text that read back as `x`, the text is
closest to `x`. -/
theorem shortest_closest {m : ℕ} {e : ℤ} (w : WfPos m e) (D' : ℕ)
    (h : round (decVal D' (shortest m e).2) false = canon m e) :
    |decVal (shortest m e).1 (shortest m e).2 - (m : ℚ) * 2 ^ e|
      ≤ |decVal D' (shortest m e).2 - (m : ℚ) * 2 ^ e| := by
  rcases shortest_spec m e with ⟨k, -, hp, -⟩ | ⟨hex, -⟩
  · obtain ⟨hk, -, hr⟩ := pick_some hp
    rw [hk] at h ⊢
    obtain ⟨g1, g2⟩ := grid_neighbour w D' k h
    obtain ⟨f, f0, f1, hx, hf⟩ := grid_frac (absNum m e) (absDen e) (absDen_pos e) k
    rw [absNum_div_absDen] at hx
    have hc := ten_zpow_pos k
    -- in units of the grid step the distances are `|D − (L + f)|`; `grid_neighbour` turns "`D'` reads
    -- back on that side" into the premise of `pick_some`'s implication, `grid_frac` its conclusion
    -- into `f < ½`
    have key : ∀ D : ℕ, |decVal D k - (m : ℚ) * 2 ^ e|
        = |(D : ℚ) - (gridLo (absNum m e) (absDen e) k + f)| * 10 ^ k := fun D => by
      rw [decVal_eq, hx, ← sub_mul, abs_mul, abs_of_pos hc]
    rw [key, key]
    refine mul_le_mul_of_nonneg_right (closer_aux f0 f1 ?_) hc.le
    rcases hr with ⟨hr, hc1⟩ | ⟨hr, hc1⟩
    · exact Or.inl ⟨hr, fun hlt => hf.mp (hc1 (g2 hlt))⟩
    · exact Or.inr ⟨hr, fun hge => not_lt.mp fun hlt => absurd (hf.mpr hlt) (not_lt.mpr (hc1 (g1 hge)))⟩
  · rw [hex, decVal_exactDigits, sub_self, abs_zero]; exact abs_nonneg _

theorem decVal_shift (n : ℕ) (k : ℤ) : decVal (10 ^ n) k = decVal 1 (n + k) := by
  simpa using decVal_mul_pow 1 n k

theorem decVal_one_mono {k k' : ℤ} (h : k ≤ k') : decVal 1 k ≤ decVal 1 k' := by
  rw [decVal_eq, decVal_eq, Nat.cast_one, one_mul, one_mul]
  exact zpow_le_zpow_right₀ (by norm_num) h

/-- (f) FEWEST DIGITS.  No decimal `D' · 10^k'` that reads back as `x` has fewer
digits `D'` than the text has: otherwise the power of ten between the two would read back as `x`
on a grid coarser than that of the text. -/
theorem shortest_fewest {m : ℕ} {e : ℤ} (w : WfPos m e) (D' : ℕ) (k' : ℤ)
    (h : round (decVal D' k') false = canon m e) :
    (natDigits (shortest m e).1).length ≤ (natDigits D').length := by
  by_contra hlt
  rw [not_le] at hlt
  have hk := shortest_coarsest w D' k' h
  have hn' := natDigits_length_pos D'
  have hD := natDigits_ge (shortest m e).1 (by omega)
  have hD' := natDigits_lt D'
  generalize (natDigits (shortest m e).1).length = n at *
  generalize (natDigits D').length = n' at *
  have e1 : decVal D' k' ≤ decVal 1 ((n - 1 : ℕ) + (shortest m e).2) :=
    le_trans (decVal_mono hD'.le k') (by rw [decVal_shift]; exact decVal_one_mono (by omega))
  have e2 : decVal 1 ((n - 1 : ℕ) + (shortest m e).2)
      ≤ decVal (shortest m e).1 (shortest m e).2 := by
    rw [← decVal_shift]; exact decVal_mono hD _
  have := shortest_coarsest w 1 _ (readback_convex w (decVal_nonneg _ _) h (shortest_ok m e) e1 e2)
  omega

/-- (f) summary for `{}` in terms of texts: the text of a well-formed non-zero `x = ± m · 2^e`
is `decText D k` — the positional text of `D · 10^k` — where, for EVERY positional decimal text
`decText D' k'` that reads back (`parseText`) as the same double as the printed text does,
the grid of the printed text is at least as coarse (`k' ≤ k`), it has at most as many digits
(`D` vs `D'`), and on its own grid it is closest to `|x|`. -/
theorem absText_none_shortest (s : Bool) (m : ℕ) (e : ℤ) (hm0 : m ≠ 0) (hm : m < two53)
    (h1 : eMin ≤ e) (h2 : e ≤ eMax) :
    ∃ D k, absText none (.fin s m e) = decText D k ∧
      parseText (decText D k) = some (canon m e) ∧ val (canon m e) = some ((m : ℚ) * 2 ^ e) ∧
      ∀ D' k', parseText (decText D' k') = parseText (decText D k) →
        k' ≤ k ∧ (natDigits D).length ≤ (natDigits D').length ∧
        (k' = k → |decVal D k - (m : ℚ) * 2 ^ e| ≤ |decVal D' k - (m : ℚ) * 2 ^ e|) := by
  have w : WfPos m e := ⟨hm0, hm, h1, h2⟩
  refine ⟨(shortest m e).1, (shortest m e).2, by simp [absText, hm0], ?_, w.canon_val, ?_⟩
  · rw [parseText_decText, shortest_ok]
  · intro D' k' hp
    rw [parseText_decText, parseText_decText, shortest_ok] at hp
    have hp := Option.some.inj hp
    refine ⟨shortest_coarsest w D' k' hp, shortest_fewest w D' k' hp, ?_⟩
    intro hk
    subst hk
    exact shortest_closest w D' hp

/-! ### tests (kernel-checked evaluations on concrete values, not theorems of the model) -/

/-- test: `0.1` -/
example : text none (ofBits 0x3FB999999999999A) = [48, 46, 49] := by decide +kernel
/-- test: `1/3` prints as `0.3333333333333333` (16 threes) -/
example : text none (ofBits 0x3FD5555555555555) = 48 :: 46 :: List.replicate 16 51 := by
  decide +kernel
/-- test: `5e-324` prints as `0.` + 323 zeros + `5` -/
example : text none (ofBits 1) = 48 :: 46 :: (List.replicate 323 48 ++ [53]) := by decide +kernel
/-- test: `2^53` prints as `9007199254740992` -/
example : text none (ofBits 0x4340000000000000)
    = [57, 48, 48, 55, 49, 57, 57, 50, 53, 52, 55, 52, 48, 57, 57, 50] := by decide +kernel
/-- test: `1e23` prints as `1` + 23 zeros (the double is 99999999999999991611392) -/
example : text none (ofBits 0x44B52D02C7E14AF6) = 49 :: List.replicate 23 48 := by decide +kernel
/-- test: `1e21` prints positionally, also with a precision -/
example : text (some 2) (ofBits 0x444B1AE4D6E2EF50)
    = 49 :: (List.replicate 21 48 ++ [46, 48, 48]) := by decide +kernel
/-- test: `-0` -/
example : text none (ofBits 0x8000000000000000) = [45, 48] := by decide +kernel
/-- tests: ties to even — `{:.0}` of 0.5, 1.5, 2.5 is `0`, `2`, `2`; `{:.2}` of 0.125, 0.375 is
`0.12`, `0.38`; `{:.0}` of 9.5 is `10` -/
example : text (some 0) (ofBits 0x3FE0000000000000) = [48] := by decide +kernel
example : text (some 0) (ofBits 0x3FF8000000000000) = [50] := by decide +kernel
example : text (some 0) (ofBits 0x4004000000000000) = [50] := by decide +kernel
example : text (some 2) (ofBits 0x3FC0000000000000) = [48, 46, 49, 50] := by decide +kernel
example : text (some 2) (ofBits 0x3FD8000000000000) = [48, 46, 51, 56] := by decide +kernel
example : text (some 0) (ofBits 0x4023000000000000) = [49, 48] := by decide +kernel
/-- tests: the reader -/
example : parseText [48, 46, 49] = some (ofBits 0x3FB999999999999A) := by decide +kernel
example : parseText (49 :: List.replicate 23 48) = some (ofBits 0x44B52D02C7E14AF6) := by
  decide +kernel
example : parseText [45, 48] = some (ofBits 0x8000000000000000) := by decide +kernel

end Qty.C15F64
