import QtyModel.Ops
import QtyModel.Generated.Algos
/- Tie between code and model: the definitions re-emitted from the Rust source (`Generated/Algos.lean`) ARE
   the model's, for `k * q`, `q * k`, `q / k` of `codegen_impl_std_traits`, `Unit::as_qty`. -/
namespace Qty.AlgoTie
open Qty.Gen.Algos

variable {A U : Type} [DecidableEq U]
variable (R : Arith A) (T : QT A U)

set_option linter.unusedSectionVars false in
theorem amnt_mul_qty_eq (k : A) (q : Q A U) : Scalar.amnt_mul_qty R T k q = smul R k q := rfl

set_option linter.unusedSectionVars false in
theorem qty_mul_amnt_eq (q : Q A U) (k : A) : Scalar.qty_mul_amnt R T q k = muls R q k := rfl

set_option linter.unusedSectionVars false in
theorem qty_div_amnt_eq (q : Q A U) (k : A) : Scalar.qty_div_amnt R T q k = sdiv R q k := rfl

set_option linter.unusedSectionVars false in
theorem as_qty_eq (u : U) : Gen.Algos.Unit.as_qty R u = (⟨R.one, u⟩ : Q A U) := rfl

end Qty.AlgoTie
