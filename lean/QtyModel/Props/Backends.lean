import QtyModel.Lemmas.DecLaws
import QtyModel.Lemmas.F64Laws
/-
  The two amount back-ends satisfy the rounding laws the numeric property
  theorems are stated over, so those theorems hold for them unconditionally
  (no hypothesis about the arithmetic is left):

  * `Dec.arith`  — exact model of `fpdec::Decimal`  (absolute error ½·10⁻¹⁸ per `*` `/`, `+ -` exact)
  * `F64.arith`  — software IEEE-754 binary64        (relative error 2⁻⁵³ plus 2⁻¹⁰⁷⁵ per operation)
-/
namespace Qty.Backends

theorem dec_laws : Laws Dec.arith ErrModel.dec := Dec.laws
theorem f64_laws : Laws F64.arith ErrModel.f64 := F64.laws

/-- the law needs the operands in range: with only the sum bounded it is false (kernel-checked witness) -/
theorem dec_add_needs_operands_in_range :
    ¬ ∀ a b x y, Dec.arith.val a = some x → Dec.arith.val b = some y →
      ErrModel.dec.safe (x + y) = true →
      ∃ c z, Dec.arith.add a b = .ok c ∧ Dec.arith.val c = some z ∧
        ratAbs (z - (x + y)) ≤ ErrModel.dec.Ea (x + y) := Dec.add_ok_false

end Qty.Backends
