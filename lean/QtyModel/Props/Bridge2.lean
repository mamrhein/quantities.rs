import QtyModel.Props.Bridge
import QtyModel.Props.C02
import QtyModel.Props.C03
import QtyModel.Props.C04
import QtyModel.Props.C05
import QtyModel.Props.C09
import QtyModel.Lemmas.ListFind
import QtyModel.Lemmas.DecLaws
import QtyModel.Lemmas.F64Laws
/-
  `Props/Bridge`, continued: the run-time theorems of C02 … C05 end to end for generated tables
  (`expand it = .ok d`, `d.kind = .withRef`, `RTable.ofDef R d = some T`), and for the catalogue with
  the operand tables of a declared product or quotient resolved by name as `buildWorld`
  (`Main.lean`) does.
-/
namespace Qty.Bridge
open Qty.MacroFront Qty.C09

theorem range_split (n k : Nat) (hk : k < n) :
    List.range n = List.range k ++ k :: (List.range n).drop (k + 1) := by
  have h1 := (List.take_append_drop k (List.range n)).symm
  rwa [List.take_range, Nat.min_eq_left hk.le, List.drop_eq_getElem_cons (by simpa using hk),
    List.getElem_range] at h1

section refFirst
variable {A : Type} (R : Arith A)
variable (it : RawItem) (d : QtyDef) (h : expand it = .ok d) (hk : d.kind = .withRef)
variable (T : RTable A) (hT : RTable.ofDef R d = some T)
include h hk hT

variable {R it d T} in
/-- the reference unit is declared FIRST (`insert(0, ref_unit_def)`), so the stable sort inserts it
LAST, in front of the first unit whose key is not below `1.0`.  If the key of `REF_UNIT` (the first
variant NAMED like the reference unit) is not below `1.0`, `REF_UNIT` is therefore the declared
reference unit, and every unit iterated before it has a sort key strictly below `1.0`. -/
theorem before_ref_lt_one (hr : (T.qt R).ref < d.units.length)
    (hkey : ∀ rd : UnitDef, rd.scale = some litOne → keyLe rd d.units[(T.qt R).ref] = true)
    (j : Nat) (hj : j < (T.qt R).ref) :
    ∃ rd : UnitDef, rd.scale = some litOne ∧ keyLe rd (d.units[j]'(hj.trans hr)) = false := by
  obtain ⟨r, hr', -, hi, -, hlt⟩ := ofDef_ref h hk hT
  obtain ⟨r', rd, us, hr'', hri, hrs, -, hu⟩ := expand_withRef h hk
  cases hr'.symm.trans hr''
  obtain ⟨pre, post, -, h2, hpre⟩ := insertBy_split keyLe rd (isort keyLe us)
  have hu' : d.units = pre ++ rd :: post := hu.trans h2
  have hmem : ∀ k (hk' : k < d.units.length), k < pre.length → d.units[k] ∈ pre := by
    intro k hk' hkp
    simp only [hu', List.getElem_append_left hkp]
    exact List.getElem_mem hkp
  have hle : (T.qt R).ref ≤ pre.length := by
    by_contra hc
    exact hlt pre.length (by omega) (by simp [hu', hri])
  have hik : (T.qt R).ref = pre.length := by
    by_contra hc
    have := hpre _ (hmem _ hi (by omega))
    rw [hkey rd hrs] at this
    cases this
  exact ⟨rd, hrs, hpre _ (hmem j _ (by omega))⟩

/-- the `pre ++ REF_UNIT :: post` form `C05.unitFromScale_one` takes, for exact literal values in any
back-end; all that is needed is that the scale literal of `REF_UNIT` has the value one
(`RefIdentUnique d` gives that, `ofDef_ref_lit`).  Follows from `before_ref_lt_one` because a
literal of exact value one has the key `1.0`; `KeysFaithful d` is not needed. -/
theorem ref_first_among_scale_one_of_ref_one (hone : litVal d (T.qt R).ref = 1) :
    ∃ pre post, (T.qt R).units = pre ++ (T.qt R).ref :: post ∧
      litVal d (T.qt R).ref = 1 ∧ ∀ u ∈ pre, litVal d u ≠ 1 := by
  have hr := ofDef_n hk hT ▸ List.mem_range.mp (ofDef_ref_mem h hk hT)
  obtain ⟨l, hl, -⟩ := ofDef_scale hk hT _ hr
  rw [litVal_eq hr hl] at hone
  refine ⟨_, _, range_split _ _ ((ofDef_n hk hT).symm ▸ hr), by rw [litVal_eq hr hl, hone], ?_⟩
  intro u hu hu1
  have hu' := List.mem_range.mp hu
  obtain ⟨rd, hrd, hlt⟩ := before_ref_lt_one h hk hT hr
    (fun rd hrd => keyLe_of_lit_one rd _ l hrd hl hone) u hu'
  obtain ⟨l', hl', -⟩ := ofDef_scale hk hT u (hu'.trans hr)
  rw [litVal_eq (hu'.trans hr) hl'] at hu1
  rw [keyLe_of_lit_one rd _ l' hrd hl' hu1] at hlt
  cases hlt

end refFirst

section natural
variable {A : Type} (R : Arith A) {M : ErrModel}

/-- the reference unit has scale one, and `unit_from_scale` of ANY amount of exact value one answers
the reference unit.  `C05.dmul_ref_units_natural` / `ddiv_ref_units_natural` ask `scale_one` of
the operand tables and `finds_ref` of the result table. -/
structure RefNatural {W : Type} (T : QT A W) : Prop where
  scale_one : R.val (T.scale T.ref) = some 1
  finds_ref : ∀ s, R.val s = some 1 → unitFromScale R T s = some T.ref

variable {R} in
/-- the dimensionless `AmountT` (one unit `One` of scale `AmountT::ONE`) -/
theorem refNatural_amount (L : Laws R M) : RefNatural R ((RTable.amount R).qt R) := by
  have h1 := (scaled_amount L).val (u := 0) Nat.one_pos
  refine ⟨h1, fun s hs => ?_⟩
  have hb : R.beq (((RTable.amount R).qt R).scale 0) s = true := (L.beq_iff h1 hs).mpr rfl
  show List.find? _ [0] = some 0
  simp only [List.find?_cons, hb]

variable {R} in
/-- `REF_UNIT` of a generated table is natural, in every back-end: its scale is one, the
amount type finds no unit iterated before it equal to one (`before_ref_lt_one`, `LitOne.key`), so
`unit_from_scale` stops at it.  Nothing is assumed about the other scales (they may be infinite). -/
theorem refNatural_generated (L : Laws R M) (B : LitOne R) {it : RawItem} {d : QtyDef}
    (h : expand it = .ok d) (hk : d.kind = .withRef) {T : RTable A}
    (hT : RTable.ofDef R d = some T) (huniq : RefIdentUnique d) : RefNatural R (T.qt R) := by
  obtain ⟨hr, hsc⟩ := ofDef_ref_lit h hk hT huniq
  have href := ref_scale_one B h hk hT huniq
  refine ⟨href, fun s hs => ?_⟩
  rw [unitFromScale, show (T.qt R).units = List.range T.n from rfl, List.find?_range_eq_some]
  refine ⟨(L.beq_iff href hs).mpr rfl, ofDef_ref_mem h hk hT, fun j hj => ?_⟩
  obtain ⟨rd, hrd, hlt⟩ := before_ref_lt_one h hk hT hr
    (fun rd hrd => keyLe_of_lit_one rd _ litOne hrd hsc litOne_value) j hj
  obtain ⟨l, hl, hof⟩ := ofDef_scale hk hT j (hj.trans hr)
  cases hb : R.beq ((T.qt R).scale j) s with
  | false => rfl
  | true => rw [B.key l _ s hof hs hb rd _ hrd hl] at hlt; cases hlt

end natural

section refUnits
variable {A : Type} (R : Arith A)

/-- reference unit times reference unit is the reference unit -/
def MulRef (TL TR TO : RTable A) : Prop :=
  ∀ l r : Q A Nat, l.unit = (TL.qt R).ref → r.unit = (TR.qt R).ref → ∀ res,
    dmul R (TL.qt R) (TR.qt R) (TO.qt R) l r = .ok res → res.unit = (TO.qt R).ref

/-- reference unit by reference unit is the reference unit -/
def DivRef (TL TR TO : RTable A) : Prop :=
  ∀ l r : Q A Nat, l.unit = (TL.qt R).ref → r.unit = (TR.qt R).ref → ∀ res,
    ddiv R (TL.qt R) (TR.qt R) (TO.qt R) l r = .ok res → res.unit = (TO.qt R).ref

end refUnits

section fourOperators
variable {A : Type} {R : Arith A} {M : ErrModel} (L : Laws R M) {TL TR TO : RTable A}
  (hL : RefNatural R (TL.qt R)) (hR : RefNatural R (TR.qt R))
  (hO : RefNatural R (TO.qt R))
include L hL hR hO

theorem mulRef_of_natural : MulRef R TL TR TO := fun l r hl hr res =>
  C05.dmul_ref_units_natural R L _ _ _ hL.scale_one hR.scale_one hO.finds_ref l r hl hr res

theorem divRef_of_natural : DivRef R TL TR TO := fun l r hl hr res =>
  C05.ddiv_ref_units_natural R L _ _ _ hL.scale_one hR.scale_one hO.finds_ref l r hl hr res

/-- the four operators `codegen_impl_mul_div_qties` generates for a product `Q = L * R` -/
theorem product_ref_units :
    MulRef R TL TR TO ∧ MulRef R TR TL TO ∧ DivRef R TO TR TL ∧ DivRef R TO TL TR :=
  ⟨mulRef_of_natural L hL hR hO, mulRef_of_natural L hR hL hO, divRef_of_natural L hO hR hL,
   divRef_of_natural L hO hL hR⟩

/-- the four operators generated for a quotient `Q = L / R` -/
theorem quotient_ref_units :
    DivRef R TL TR TO ∧ MulRef R TO TR TL ∧ MulRef R TR TO TL ∧ DivRef R TL TO TR :=
  ⟨divRef_of_natural L hL hR hO, mulRef_of_natural L hO hR hL, mulRef_of_natural L hR hO hL,
   divRef_of_natural L hL hO hR⟩

end fourOperators

/-- three generated decimal tables (left operand, right operand, result): reference unit times
reference unit is expressed in the reference unit.  No arithmetic hypothesis at all is left (if
the product of the amounts overflows there is no `res`). -/
theorem dmul_ref_units_generated_dec
    (itL : RawItem) (dL : QtyDef) (hL : expand itL = .ok dL) (hkL : dL.kind = .withRef)
    (TL : RTable Dec) (hTL : RTable.ofDef Dec.arith dL = some TL) (huL : RefIdentUnique dL)
    (itR : RawItem) (dR : QtyDef) (hR : expand itR = .ok dR) (hkR : dR.kind = .withRef)
    (TR : RTable Dec) (hTR : RTable.ofDef Dec.arith dR = some TR) (huR : RefIdentUnique dR)
    (itO : RawItem) (dO : QtyDef) (hO : expand itO = .ok dO) (hkO : dO.kind = .withRef)
    (TO : RTable Dec) (hTO : RTable.ofDef Dec.arith dO = some TO) (huO : RefIdentUnique dO)
    (l r : Q Dec Nat) (hl : l.unit = (TL.qt Dec.arith).ref) (hr : r.unit = (TR.qt Dec.arith).ref)
    (res : Q Dec Nat)
    (hres : dmul Dec.arith (TL.qt Dec.arith) (TR.qt Dec.arith) (TO.qt Dec.arith) l r = .ok res) :
    res.unit = (TO.qt Dec.arith).ref :=
  mulRef_of_natural Dec.laws (refNatural_generated Dec.laws litOne_dec hL hkL hTL huL)
    (refNatural_generated Dec.laws litOne_dec hR hkR hTR huR)
    (refNatural_generated Dec.laws litOne_dec hO hkO hTO huO) l r hl hr res hres

theorem ddiv_ref_units_generated_dec
    (itL : RawItem) (dL : QtyDef) (hL : expand itL = .ok dL) (hkL : dL.kind = .withRef)
    (TL : RTable Dec) (hTL : RTable.ofDef Dec.arith dL = some TL) (huL : RefIdentUnique dL)
    (itR : RawItem) (dR : QtyDef) (hR : expand itR = .ok dR) (hkR : dR.kind = .withRef)
    (TR : RTable Dec) (hTR : RTable.ofDef Dec.arith dR = some TR) (huR : RefIdentUnique dR)
    (itO : RawItem) (dO : QtyDef) (hO : expand itO = .ok dO) (hkO : dO.kind = .withRef)
    (TO : RTable Dec) (hTO : RTable.ofDef Dec.arith dO = some TO) (huO : RefIdentUnique dO)
    (l r : Q Dec Nat) (hl : l.unit = (TL.qt Dec.arith).ref) (hr : r.unit = (TR.qt Dec.arith).ref)
    (res : Q Dec Nat)
    (hres : ddiv Dec.arith (TL.qt Dec.arith) (TR.qt Dec.arith) (TO.qt Dec.arith) l r = .ok res) :
    res.unit = (TO.qt Dec.arith).ref :=
  divRef_of_natural Dec.laws (refNatural_generated Dec.laws litOne_dec hL hkL hTL huL)
    (refNatural_generated Dec.laws litOne_dec hR hkR hTR huR)
    (refNatural_generated Dec.laws litOne_dec hO hkO hTO huO) l r hl hr res hres

section refUnitsF64
variable {U V : Type} [DecidableEq U] [DecidableEq V]
variable (it : RawItem) (d : QtyDef) (h : expand it = .ok d) (hk : d.kind = .withRef)
variable (T : RTable F64) (hT : RTable.ofDef F64.arith d = some T)
include h hk hT

set_option linter.unusedVariables false in
/-- the hypothesis `hfin` (finite scales of the result table), which the route through
`C05.dmul_ref_units` would cost, is not needed -/
theorem dmul_ref_units_generated_f64_of_fin (huniq : RefIdentUnique d)
    (hfin : ∀ u, u < T.n → (F64.arith.val (T.scaleOf F64.arith u)).isSome = true)
    (TL : QT F64 U) (TR : QT F64 V)
    (hsl : F64.arith.val (TL.scale TL.ref) = some 1) (hsr : F64.arith.val (TR.scale TR.ref) = some 1)
    (l : Q F64 U) (r : Q F64 V) (hl : l.unit = TL.ref) (hr : r.unit = TR.ref)
    (res : Q F64 Nat) (hres : dmul F64.arith TL TR (T.qt F64.arith) l r = .ok res) :
    res.unit = (T.qt F64.arith).ref :=
  C05.dmul_ref_units_natural F64.arith F64.laws TL TR _ hsl hsr
    (refNatural_generated F64.laws litOne_f64 h hk hT huniq).finds_ref l r hl hr res hres

end refUnitsF64

/-- three generated binary tables: reference unit times reference unit is expressed in the
reference unit; no arithmetic-range hypothesis is left -/
theorem dmul_ref_units_generated_f64
    (itL : RawItem) (dL : QtyDef) (hL : expand itL = .ok dL) (hkL : dL.kind = .withRef)
    (TL : RTable F64) (hTL : RTable.ofDef F64.arith dL = some TL) (huL : RefIdentUnique dL)
    (itR : RawItem) (dR : QtyDef) (hR : expand itR = .ok dR) (hkR : dR.kind = .withRef)
    (TR : RTable F64) (hTR : RTable.ofDef F64.arith dR = some TR) (huR : RefIdentUnique dR)
    (itO : RawItem) (dO : QtyDef) (hO : expand itO = .ok dO) (hkO : dO.kind = .withRef)
    (TO : RTable F64) (hTO : RTable.ofDef F64.arith dO = some TO) (huO : RefIdentUnique dO)
    (l r : Q F64 Nat) (hl : l.unit = (TL.qt F64.arith).ref) (hr : r.unit = (TR.qt F64.arith).ref)
    (res : Q F64 Nat)
    (hres : dmul F64.arith (TL.qt F64.arith) (TR.qt F64.arith) (TO.qt F64.arith) l r = .ok res) :
    res.unit = (TO.qt F64.arith).ref :=
  mulRef_of_natural F64.laws (refNatural_generated F64.laws litOne_f64 hL hkL hTL huL)
    (refNatural_generated F64.laws litOne_f64 hR hkR hTR huR)
    (refNatural_generated F64.laws litOne_f64 hO hkO hTO huO) l r hl hr res hres

theorem ddiv_ref_units_generated_f64
    (itL : RawItem) (dL : QtyDef) (hL : expand itL = .ok dL) (hkL : dL.kind = .withRef)
    (TL : RTable F64) (hTL : RTable.ofDef F64.arith dL = some TL) (huL : RefIdentUnique dL)
    (itR : RawItem) (dR : QtyDef) (hR : expand itR = .ok dR) (hkR : dR.kind = .withRef)
    (TR : RTable F64) (hTR : RTable.ofDef F64.arith dR = some TR) (huR : RefIdentUnique dR)
    (itO : RawItem) (dO : QtyDef) (hO : expand itO = .ok dO) (hkO : dO.kind = .withRef)
    (TO : RTable F64) (hTO : RTable.ofDef F64.arith dO = some TO) (huO : RefIdentUnique dO)
    (l r : Q F64 Nat) (hl : l.unit = (TL.qt F64.arith).ref) (hr : r.unit = (TR.qt F64.arith).ref)
    (res : Q F64 Nat)
    (hres : ddiv F64.arith (TL.qt F64.arith) (TR.qt F64.arith) (TO.qt F64.arith) l r = .ok res) :
    res.unit = (TO.qt F64.arith).ref :=
  divRef_of_natural F64.laws (refNatural_generated F64.laws litOne_f64 hL hkL hTL huL)
    (refNatural_generated F64.laws litOne_f64 hR hkR hTR huR)
    (refNatural_generated F64.laws litOne_f64 hO hkO hTO huO) l r hl hr res hres

section magDec

/-- `C04.dmul_mag` for three generated decimal tables (operands `dL`, `dR`, result `dO`; result with
positive scale literals): the operator returns, the result carries a unit of the result table, and
its reference-unit magnitude is the exact product of the operands' magnitudes up to
`Oracle.derivedBound`. What is left: the two units are units of their tables, the values `a`, `b` of
the two amounts, and the range condition `Oracle.derivedSafe` (for every unit of the result table).
All scales are the exact literal values `litVal`. -/
theorem dmul_mag_generated_dec
    (dL : QtyDef) (hkL : dL.kind = .withRef) (TL : RTable Dec)
    (hTL : RTable.ofDef Dec.arith dL = some TL)
    (dR : QtyDef) (hkR : dR.kind = .withRef) (TR : RTable Dec)
    (hTR : RTable.ofDef Dec.arith dR = some TR)
    (itO : RawItem) (dO : QtyDef) (hO : expand itO = .ok dO) (hkO : dO.kind = .withRef)
    (TO : RTable Dec) (hTO : RTable.ofDef Dec.arith dO = some TO) (hpO : LitsPositive dO = true)
    (l r : Q Dec Nat) (hlu : l.unit < TL.n) (hru : r.unit < TR.n) (a b : Rat)
    (ha : Dec.arith.val l.amount = some a) (hb : Dec.arith.val r.amount = some b)
    (hsafe : ∀ u, u < TO.n → Oracle.derivedSafe ErrModel.dec (a * b)
      (litVal dL l.unit * litVal dR r.unit) (litVal dO u) = true) :
    ∃ res z, dmul Dec.arith (TL.qt Dec.arith) (TR.qt Dec.arith) (TO.qt Dec.arith) l r = .ok res ∧
      res.unit < TO.n ∧ Dec.arith.val res.amount = some z ∧
      ratAbs (z * litVal dO res.unit - (a * b) * (litVal dL l.unit * litVal dR r.unit)) ≤
        Oracle.derivedBound ErrModel.dec (a * b) (litVal dL l.unit * litVal dR r.unit)
          (litVal dO res.unit) := by
  obtain ⟨res, z, h1, h2, h3, h4⟩ :=
    C04.dmul_mag Dec.arith Dec.laws (TL.qt Dec.arith) (TR.qt Dec.arith) (TO.qt Dec.arith)
      (ofDef_fitIdentity hkO hTO) (ofDef_ref_mem hO hkO hTO)
      l r a b _ _ ha hb (dec_scale_litVal hkL hTL _ hlu) (dec_scale_litVal hkR hTR _ hru)
      (litVal dO) (scaled_dec hkO hTO hpO).of_mem
      (fun u hu => hsafe u (List.mem_range.mp hu))
  exact ⟨res, z, h1, List.mem_range.mp h2, h3, h4⟩

/-- the same for the quotient; the divisor table needs positive literals too (its scale must not
be zero), the divisor amount must not be zero -/
theorem ddiv_mag_generated_dec
    (dL : QtyDef) (hkL : dL.kind = .withRef) (TL : RTable Dec)
    (hTL : RTable.ofDef Dec.arith dL = some TL)
    (dR : QtyDef) (hkR : dR.kind = .withRef) (TR : RTable Dec)
    (hTR : RTable.ofDef Dec.arith dR = some TR) (hpR : LitsPositive dR = true)
    (itO : RawItem) (dO : QtyDef) (hO : expand itO = .ok dO) (hkO : dO.kind = .withRef)
    (TO : RTable Dec) (hTO : RTable.ofDef Dec.arith dO = some TO) (hpO : LitsPositive dO = true)
    (l r : Q Dec Nat) (hlu : l.unit < TL.n) (hru : r.unit < TR.n) (a b : Rat)
    (ha : Dec.arith.val l.amount = some a) (hb : Dec.arith.val r.amount = some b) (hb0 : b ≠ 0)
    (hsafe : ∀ u, u < TO.n → Oracle.derivedSafe ErrModel.dec (a / b)
      (litVal dL l.unit / litVal dR r.unit) (litVal dO u) = true) :
    ∃ res z, ddiv Dec.arith (TL.qt Dec.arith) (TR.qt Dec.arith) (TO.qt Dec.arith) l r = .ok res ∧
      res.unit < TO.n ∧ Dec.arith.val res.amount = some z ∧
      ratAbs (z * litVal dO res.unit - (a / b) * (litVal dL l.unit / litVal dR r.unit)) ≤
        Oracle.derivedBound ErrModel.dec (a / b) (litVal dL l.unit / litVal dR r.unit)
          (litVal dO res.unit) := by
  have hsR := scaled_dec hkR hTR hpR
  obtain ⟨res, z, h1, h2, h3, h4⟩ :=
    C04.ddiv_mag Dec.arith Dec.laws (TL.qt Dec.arith) (TR.qt Dec.arith) (TO.qt Dec.arith)
      (ofDef_fitIdentity hkO hTO) (ofDef_ref_mem hO hkO hTO)
      l r a b _ _ ha hb hb0 (dec_scale_litVal hkL hTL _ hlu) (hsR.val hru) (hsR.pos hru).ne'
      (litVal dO) (scaled_dec hkO hTO hpO).of_mem
      (fun u hu => hsafe u (List.mem_range.mp hu))
  exact ⟨res, z, h1, List.mem_range.mp h2, h3, h4⟩

variable (d : QtyDef) (hk : d.kind = .withRef)
variable (T : RTable Dec) (hT : RTable.ofDef Dec.arith d = some T) (hp : LitsPositive d = true)
include hk hT hp

/-- `C02.cmp_physical` for one generated decimal table with positive literals: values in different
units whose physical magnitudes are further apart than the rounding margin of one conversion compare
as the exact magnitudes do. Left: the values of the amounts, the range conditions `Oracle.convSafe`
and the gap. -/
theorem cmp_physical_generated_dec (a b : Q Dec Nat) (hau : a.unit < T.n) (hbu : b.unit < T.n)
    (hu : a.unit ≠ b.unit) (x y : Rat)
    (hx : Dec.arith.val a.amount = some x) (hy : Dec.arith.val b.amount = some y)
    (hs1 : Oracle.convSafe ErrModel.dec (litVal d b.unit) (litVal d a.unit) y = true)
    (hs2 : Oracle.convSafe ErrModel.dec (litVal d a.unit) (litVal d b.unit) x = true)
    (hgap : max (Oracle.convBound ErrModel.dec (litVal d b.unit) (litVal d a.unit) y)
        (Oracle.convBound ErrModel.dec (litVal d a.unit) (litVal d b.unit) x)
      < |x * litVal d a.unit - y * litVal d b.unit|) :
    hrPcmp Dec.arith (T.qt Dec.arith) a b
      = .ok (some (ratCmp (x * litVal d a.unit) (y * litVal d b.unit))) ∧
    hrEq Dec.arith (T.qt Dec.arith) a b = .ok false :=
  have hs := scaled_dec hk hT hp
  C02.cmp_physical Dec.arith (T.qt Dec.arith) Dec.laws a b _ _ x y hu (hs.val hau) (hs.val hbu)
    (hs.pos hau) (hs.pos hbu) hx hy hs1 hs2 hgap

/-- `C03.addsub_mag` for one generated decimal table with positive literals -/
theorem addsub_mag_generated_dec (isSub : Bool) (a b : Q Dec Nat) (hau : a.unit < T.n)
    (hbu : b.unit < T.n) (hne : b.unit ≠ a.unit) (x y : Rat)
    (hx : Dec.arith.val a.amount = some x) (hy : Dec.arith.val b.amount = some y)
    (hsafe : Oracle.convSafe ErrModel.dec (litVal d b.unit) (litVal d a.unit) y = true)
    (hsafe2 : ErrModel.dec.safe (ratAbs x + (ratAbs (litVal d b.unit / litVal d a.unit) * ratAbs y
        + Oracle.convBoundIn ErrModel.dec (litVal d b.unit) (litVal d a.unit) y)
      + ErrModel.dec.Ea (ratAbs x + (ratAbs (litVal d b.unit / litVal d a.unit) * ratAbs y
        + Oracle.convBoundIn ErrModel.dec (litVal d b.unit) (litVal d a.unit) y))) = true) :
    ∃ r z, (if isSub then hrSub Dec.arith (T.qt Dec.arith) a b
        else hrAdd Dec.arith (T.qt Dec.arith) a b) = .ok r ∧ r.unit = a.unit ∧
      Dec.arith.val r.amount = some z ∧
      ratAbs (z * litVal d a.unit - (if isSub then x * litVal d a.unit - y * litVal d b.unit
          else x * litVal d a.unit + y * litVal d b.unit)) ≤
        ratAbs (litVal d a.unit) *
          (ErrModel.dec.Ea (ratAbs x + (ratAbs (litVal d b.unit / litVal d a.unit) * ratAbs y
              + Oracle.convBoundIn ErrModel.dec (litVal d b.unit) (litVal d a.unit) y))
            + Oracle.convBoundIn ErrModel.dec (litVal d b.unit) (litVal d a.unit) y) :=
  have hs := scaled_dec hk hT hp
  C03.addsub_mag Dec.arith (T.qt Dec.arith) Dec.laws isSub a b _ _ x y hne (hs.val hau) (hs.val hbu)
    (hs.pos hau).ne' hx hy hsafe hsafe2

/-- `C03.div_ratio` for one generated decimal table with positive literals -/
theorem div_ratio_generated_dec (a b : Q Dec Nat) (hau : a.unit < T.n)
    (hbu : b.unit < T.n) (hne : b.unit ≠ a.unit) (x y : Rat)
    (hx : Dec.arith.val a.amount = some x) (hy : Dec.arith.val b.amount = some y)
    (hsafe : Oracle.convSafe ErrModel.dec (litVal d b.unit) (litVal d a.unit) y = true)
    (hcb : Oracle.convBoundIn ErrModel.dec (litVal d b.unit) (litVal d a.unit) y
      < ratAbs (litVal d b.unit / litVal d a.unit * y))
    (hsafe2 : ErrModel.dec.safe (ratAbs x / (ratAbs (litVal d b.unit / litVal d a.unit * y)
        - Oracle.convBoundIn ErrModel.dec (litVal d b.unit) (litVal d a.unit) y)
      + ErrModel.dec.E (ratAbs x / (ratAbs (litVal d b.unit / litVal d a.unit * y)
        - Oracle.convBoundIn ErrModel.dec (litVal d b.unit) (litVal d a.unit) y))) = true) :
    ∃ c z, hrDiv Dec.arith (T.qt Dec.arith) a b = .ok c ∧ Dec.arith.val c = some z ∧
      ratAbs (z - x / (litVal d b.unit / litVal d a.unit * y)) ≤
        ratAbs x * Oracle.convBoundIn ErrModel.dec (litVal d b.unit) (litVal d a.unit) y /
            ((ratAbs (litVal d b.unit / litVal d a.unit * y)
                - Oracle.convBoundIn ErrModel.dec (litVal d b.unit) (litVal d a.unit) y)
              * ratAbs (litVal d b.unit / litVal d a.unit * y))
          + ErrModel.dec.E (ratAbs x / (ratAbs (litVal d b.unit / litVal d a.unit * y)
              - Oracle.convBoundIn ErrModel.dec (litVal d b.unit) (litVal d a.unit) y)) :=
  have hs := scaled_dec hk hT hp
  C03.div_ratio Dec.arith (T.qt Dec.arith) Dec.laws a b _ _ x y hne (hs.val hau) (hs.val hbu)
    (hs.pos hau).ne' hx hy hsafe hcb hsafe2

end magDec

section magF64

/-- `C04.dmul_mag` for three generated binary tables (operands `dL`, `dR`, result `dO`, all with
scale literals in `[2^-1073, 2^1023)`): the operator returns, the result carries a unit of the
result table, and its reference-unit magnitude is the exact product of the operands' magnitudes up
to `Oracle.derivedBound`. What is left: the two units are units of their tables, the values `a`, `b`
of the two amounts, and the range condition `Oracle.derivedSafe` (for every unit of the result
table). All scales are the exact values `f64Sc` of the rounded literals. -/
theorem dmul_mag_generated_f64
    (dL : QtyDef) (hkL : dL.kind = .withRef) (TL : RTable F64)
    (hTL : RTable.ofDef F64.arith dL = some TL) (hpL : LitsNormalF64 dL = true)
    (dR : QtyDef) (hkR : dR.kind = .withRef) (TR : RTable F64)
    (hTR : RTable.ofDef F64.arith dR = some TR) (hpR : LitsNormalF64 dR = true)
    (itO : RawItem) (dO : QtyDef) (hO : expand itO = .ok dO) (hkO : dO.kind = .withRef)
    (TO : RTable F64) (hTO : RTable.ofDef F64.arith dO = some TO) (hpO : LitsNormalF64 dO = true)
    (l r : Q F64 Nat) (hlu : l.unit < TL.n) (hru : r.unit < TR.n) (a b : Rat)
    (ha : F64.arith.val l.amount = some a) (hb : F64.arith.val r.amount = some b)
    (hsafe : ∀ u, u < TO.n → Oracle.derivedSafe ErrModel.f64 (a * b)
      (f64Sc TL l.unit * f64Sc TR r.unit) (f64Sc TO u) = true) :
    ∃ res z, dmul F64.arith (TL.qt F64.arith) (TR.qt F64.arith) (TO.qt F64.arith) l r = .ok res ∧
      res.unit < TO.n ∧ F64.arith.val res.amount = some z ∧
      ratAbs (z * f64Sc TO res.unit - (a * b) * (f64Sc TL l.unit * f64Sc TR r.unit)) ≤
        Oracle.derivedBound ErrModel.f64 (a * b) (f64Sc TL l.unit * f64Sc TR r.unit)
          (f64Sc TO res.unit) := by
  obtain ⟨res, z, h1, h2, h3, h4⟩ :=
    C04.dmul_mag F64.arith F64.laws (TL.qt F64.arith) (TR.qt F64.arith) (TO.qt F64.arith)
      (ofDef_fitIdentity hkO hTO) (ofDef_ref_mem hO hkO hTO)
      l r a b _ _ ha hb ((scaled_f64 hkL hTL hpL).val hlu)
      ((scaled_f64 hkR hTR hpR).val hru)
      (f64Sc TO) (scaled_f64 hkO hTO hpO).of_mem
      (fun u hu => hsafe u (List.mem_range.mp hu))
  exact ⟨res, z, h1, List.mem_range.mp h2, h3, h4⟩

/-- the same for the quotient; the divisor amount must not be zero -/
theorem ddiv_mag_generated_f64
    (dL : QtyDef) (hkL : dL.kind = .withRef) (TL : RTable F64)
    (hTL : RTable.ofDef F64.arith dL = some TL) (hpL : LitsNormalF64 dL = true)
    (dR : QtyDef) (hkR : dR.kind = .withRef) (TR : RTable F64)
    (hTR : RTable.ofDef F64.arith dR = some TR) (hpR : LitsNormalF64 dR = true)
    (itO : RawItem) (dO : QtyDef) (hO : expand itO = .ok dO) (hkO : dO.kind = .withRef)
    (TO : RTable F64) (hTO : RTable.ofDef F64.arith dO = some TO) (hpO : LitsNormalF64 dO = true)
    (l r : Q F64 Nat) (hlu : l.unit < TL.n) (hru : r.unit < TR.n) (a b : Rat)
    (ha : F64.arith.val l.amount = some a) (hb : F64.arith.val r.amount = some b) (hb0 : b ≠ 0)
    (hsafe : ∀ u, u < TO.n → Oracle.derivedSafe ErrModel.f64 (a / b)
      (f64Sc TL l.unit / f64Sc TR r.unit) (f64Sc TO u) = true) :
    ∃ res z, ddiv F64.arith (TL.qt F64.arith) (TR.qt F64.arith) (TO.qt F64.arith) l r = .ok res ∧
      res.unit < TO.n ∧ F64.arith.val res.amount = some z ∧
      ratAbs (z * f64Sc TO res.unit - (a / b) * (f64Sc TL l.unit / f64Sc TR r.unit)) ≤
        Oracle.derivedBound ErrModel.f64 (a / b) (f64Sc TL l.unit / f64Sc TR r.unit)
          (f64Sc TO res.unit) := by
  have hsR := scaled_f64 hkR hTR hpR
  obtain ⟨res, z, h1, h2, h3, h4⟩ :=
    C04.ddiv_mag F64.arith F64.laws (TL.qt F64.arith) (TR.qt F64.arith) (TO.qt F64.arith)
      (ofDef_fitIdentity hkO hTO) (ofDef_ref_mem hO hkO hTO)
      l r a b _ _ ha hb hb0 ((scaled_f64 hkL hTL hpL).val hlu) (hsR.val hru) (hsR.pos hru).ne'
      (f64Sc TO) (scaled_f64 hkO hTO hpO).of_mem
      (fun u hu => hsafe u (List.mem_range.mp hu))
  exact ⟨res, z, h1, List.mem_range.mp h2, h3, h4⟩

variable (d : QtyDef) (hk : d.kind = .withRef)
variable (T : RTable F64) (hT : RTable.ofDef F64.arith d = some T)
  (hp : LitsNormalF64 d = true)
include hk hT hp

/-- `C02.cmp_physical` for one generated binary table with literals in `[2^-1073, 2^1023)`: values
in different units whose physical magnitudes are further apart than the rounding margin of one
conversion compare as the exact magnitudes do. Left: the values of the amounts, the range conditions
`Oracle.convSafe` and the gap. -/
theorem cmp_physical_generated_f64 (a b : Q F64 Nat) (hau : a.unit < T.n) (hbu : b.unit < T.n)
    (hu : a.unit ≠ b.unit) (x y : Rat)
    (hx : F64.arith.val a.amount = some x) (hy : F64.arith.val b.amount = some y)
    (hs1 : Oracle.convSafe ErrModel.f64 (f64Sc T b.unit) (f64Sc T a.unit) y = true)
    (hs2 : Oracle.convSafe ErrModel.f64 (f64Sc T a.unit) (f64Sc T b.unit) x = true)
    (hgap : max (Oracle.convBound ErrModel.f64 (f64Sc T b.unit) (f64Sc T a.unit) y)
        (Oracle.convBound ErrModel.f64 (f64Sc T a.unit) (f64Sc T b.unit) x)
      < |x * f64Sc T a.unit - y * f64Sc T b.unit|) :
    hrPcmp F64.arith (T.qt F64.arith) a b
      = .ok (some (ratCmp (x * f64Sc T a.unit) (y * f64Sc T b.unit))) ∧
    hrEq F64.arith (T.qt F64.arith) a b = .ok false :=
  have hs := scaled_f64 hk hT hp
  C02.cmp_physical F64.arith (T.qt F64.arith) F64.laws a b _ _ x y hu (hs.val hau) (hs.val hbu)
    (hs.pos hau) (hs.pos hbu) hx hy hs1 hs2 hgap

/-- `C03.addsub_mag` for one generated binary table with literals in `[2^-1073, 2^1023)` -/
theorem addsub_mag_generated_f64 (isSub : Bool) (a b : Q F64 Nat) (hau : a.unit < T.n)
    (hbu : b.unit < T.n) (hne : b.unit ≠ a.unit) (x y : Rat)
    (hx : F64.arith.val a.amount = some x) (hy : F64.arith.val b.amount = some y)
    (hsafe : Oracle.convSafe ErrModel.f64 (f64Sc T b.unit) (f64Sc T a.unit) y = true)
    (hsafe2 : ErrModel.f64.safe (ratAbs x + (ratAbs (f64Sc T b.unit / f64Sc T a.unit) * ratAbs y
        + Oracle.convBoundIn ErrModel.f64 (f64Sc T b.unit) (f64Sc T a.unit) y)
      + ErrModel.f64.Ea (ratAbs x + (ratAbs (f64Sc T b.unit / f64Sc T a.unit) * ratAbs y
        + Oracle.convBoundIn ErrModel.f64 (f64Sc T b.unit) (f64Sc T a.unit) y))) = true) :
    ∃ r z, (if isSub then hrSub F64.arith (T.qt F64.arith) a b
        else hrAdd F64.arith (T.qt F64.arith) a b) = .ok r ∧ r.unit = a.unit ∧
      F64.arith.val r.amount = some z ∧
      ratAbs (z * f64Sc T a.unit - (if isSub then x * f64Sc T a.unit - y * f64Sc T b.unit
          else x * f64Sc T a.unit + y * f64Sc T b.unit)) ≤
        ratAbs (f64Sc T a.unit) *
          (ErrModel.f64.Ea (ratAbs x + (ratAbs (f64Sc T b.unit / f64Sc T a.unit) * ratAbs y
              + Oracle.convBoundIn ErrModel.f64 (f64Sc T b.unit) (f64Sc T a.unit) y))
            + Oracle.convBoundIn ErrModel.f64 (f64Sc T b.unit) (f64Sc T a.unit) y) :=
  have hs := scaled_f64 hk hT hp
  C03.addsub_mag F64.arith (T.qt F64.arith) F64.laws isSub a b _ _ x y hne (hs.val hau) (hs.val hbu)
    (hs.pos hau).ne' hx hy hsafe hsafe2

/-- `C03.div_ratio` for one generated binary table with literals in `[2^-1073, 2^1023)` -/
theorem div_ratio_generated_f64 (a b : Q F64 Nat) (hau : a.unit < T.n)
    (hbu : b.unit < T.n) (hne : b.unit ≠ a.unit) (x y : Rat)
    (hx : F64.arith.val a.amount = some x) (hy : F64.arith.val b.amount = some y)
    (hsafe : Oracle.convSafe ErrModel.f64 (f64Sc T b.unit) (f64Sc T a.unit) y = true)
    (hcb : Oracle.convBoundIn ErrModel.f64 (f64Sc T b.unit) (f64Sc T a.unit) y
      < ratAbs (f64Sc T b.unit / f64Sc T a.unit * y))
    (hsafe2 : ErrModel.f64.safe (ratAbs x / (ratAbs (f64Sc T b.unit / f64Sc T a.unit * y)
        - Oracle.convBoundIn ErrModel.f64 (f64Sc T b.unit) (f64Sc T a.unit) y)
      + ErrModel.f64.E (ratAbs x / (ratAbs (f64Sc T b.unit / f64Sc T a.unit * y)
        - Oracle.convBoundIn ErrModel.f64 (f64Sc T b.unit) (f64Sc T a.unit) y))) = true) :
    ∃ c z, hrDiv F64.arith (T.qt F64.arith) a b = .ok c ∧ F64.arith.val c = some z ∧
      ratAbs (z - x / (f64Sc T b.unit / f64Sc T a.unit * y)) ≤
        ratAbs x * Oracle.convBoundIn ErrModel.f64 (f64Sc T b.unit) (f64Sc T a.unit) y /
            ((ratAbs (f64Sc T b.unit / f64Sc T a.unit * y)
                - Oracle.convBoundIn ErrModel.f64 (f64Sc T b.unit) (f64Sc T a.unit) y)
              * ratAbs (f64Sc T b.unit / f64Sc T a.unit * y))
          + ErrModel.f64.E (ratAbs x / (ratAbs (f64Sc T b.unit / f64Sc T a.unit * y)
              - Oracle.convBoundIn ErrModel.f64 (f64Sc T b.unit) (f64Sc T a.unit) y)) :=
  have hs := scaled_f64 hk hT hp
  C03.div_ratio F64.arith (T.qt F64.arith) F64.laws a b _ _ x y hne (hs.val hau) (hs.val hbu)
    (hs.pos hau).ne' hx hy hsafe hcb hsafe2

end magF64

section catalogueOps
variable {A : Type} (R : Arith A)

/-- the table a type name denotes among the definitions `items` of one crate (`AmountT` is the
dimensionless amount) — the lookup of `buildWorld` / `World.find` (`Main.lean`) -/
def tableOf (items : List RawItem) (n : Text) : Option (RTable A) :=
  if n = amountName then some (RTable.amount R)
  else match items.find? (fun it => it.name == n) with
    | none => none
    | some it => (match expand it with
      | .ok d => RTable.ofDef R d
      | .error _ => none)

/-- `T` is a table of the code generated for the crate `items` in back-end `R`: the table of one
of its definitions with reference unit, or the dimensionless `AmountT` -/
inductive TableIn (items : List RawItem) : RTable A → Prop
  | ofDef (it : RawItem) (hit : it ∈ items) (d : QtyDef) (h : expand it = .ok d)
      (hk : d.kind = .withRef) (T : RTable A) (hT : RTable.ofDef R d = some T) : TableIn items T
  | amount : TableIn items (RTable.amount R)

/-- decidable: the name denotes `AmountT` or a definition of `items` with reference unit -/
def nameOk (items : List RawItem) (n : Text) : Bool :=
  n == amountName || (match items.find? (fun it => it.name == n) with
    | none => false
    | some it => expandsTo (fun d => d.kind == .withRef) it)

/-- decidable: a definition declared as `L * R` / `L / R` has a reference unit and `L`, `R` denote
`AmountT` or definitions of `items` with reference unit.  No back-end is involved. -/
def derivedNamesOk (items : List RawItem) (it : RawItem) : Bool :=
  expandsTo (fun d => match d.derived with
    | none => true
    | some der => d.kind == .withRef && nameOk items der.lhs && nameOk items der.rhs) it

variable (items : List RawItem)
  (htab : ∀ it ∈ items, ∀ d, expand it = .ok d → ∃ T, RTable.ofDef R d = some T)
include htab

theorem tableIn_of_nameOk (n : Text) (hn : nameOk items n = true) :
    ∃ T, tableOf R items n = some T ∧ TableIn R items T := by
  unfold nameOk at hn
  unfold tableOf
  by_cases hna : n = amountName
  · exact ⟨_, if_pos hna, .amount⟩
  · rw [if_neg hna]
    rw [(beq_eq_false_iff_ne).mpr hna, Bool.false_or] at hn
    split at hn
    · cases hn
    · next it hf =>
      obtain ⟨d, he, hk⟩ := expandsTo_spec _ it hn
      have hit := List.mem_of_find?_eq_some hf
      obtain ⟨T, hT⟩ := htab it hit d he
      exact ⟨T, by rw [he]; exact hT, .ofDef it hit d he (beq_iff_eq.mp hk) T hT⟩

/-- a declared derivation has a reference unit, and its three tables exist as tables of the crate -/
theorem tableIn_of_derivedNamesOk (it : RawItem) (hit : it ∈ items) (d : QtyDef)
    (h : expand it = .ok d) (hok : derivedNamesOk items it = true) (ln rn : Text) (isMul : Bool)
    (hder : d.derived = some ⟨ln, isMul, rn⟩) :
    d.kind = .withRef ∧ ∃ TL TR TO, tableOf R items ln = some TL ∧ tableOf R items rn = some TR ∧
      RTable.ofDef R d = some TO ∧ TableIn R items TL ∧ TableIn R items TR ∧
      TableIn R items TO := by
  obtain ⟨d', h', hok⟩ := expandsTo_spec _ it hok
  cases h.symm.trans h'
  simp only [hder, Bool.and_eq_true, beq_iff_eq] at hok
  obtain ⟨TL, hTL, hL⟩ := tableIn_of_nameOk R items htab ln hok.1.2
  obtain ⟨TR, hTR, hR⟩ := tableIn_of_nameOk R items htab rn hok.2
  obtain ⟨TO, hTO⟩ := htab it hit d h
  exact ⟨hok.1.1, TL, TR, TO, hTL, hTR, hTO, hL, hR, .ofDef it hit d h hok.1.1 TO hTO⟩

end catalogueOps

/-- the groups of definitions that refer to each other by name, per back-end: main crate and
synthetic definitions of the harness; the astronomical crate is `f64` only -/
def cratesDec : List (List RawItem) := [Gen.Catalogue.items, Gen.Synth.items]
def cratesF64 : List (List RawItem) := [Gen.Catalogue.items, Gen.Astro.items, Gen.Synth.items]

/-- kernel evaluation: every definition of the three crates that is declared as a product or
quotient has a reference unit, and so have both its operand types (looked up by name in the same
crate, or `AmountT`) -/
theorem catalogue_derived_eval :
    cratesF64.all (fun items => items.all (derivedNamesOk items)) = true := by
  decide +kernel

theorem crates_sub (items : List RawItem) (hc : items ∈ cratesF64) (it : RawItem) (hit : it ∈ items) :
    it ∈ allItems := by
  simp only [cratesF64, List.mem_cons, List.not_mem_nil, or_false] at hc
  simp only [allItems, List.mem_append]
  rcases hc with rfl | rfl | rfl
  · exact .inl (.inl hit)
  · exact .inl (.inr hit)
  · exact .inr hit

theorem cratesDec_items (items : List RawItem) (hc : items ∈ cratesDec) (it : RawItem)
    (hit : it ∈ items) : it ∈ Gen.Catalogue.items ++ Gen.Synth.items := by
  simp only [cratesDec, List.mem_cons, List.not_mem_nil, or_false] at hc
  rcases hc with rfl | rfl
  · exact List.mem_append_left _ hit
  · exact List.mem_append_right _ hit

theorem cratesDec_sub (items : List RawItem) (hc : items ∈ cratesDec) : items ∈ cratesF64 := by
  simp only [cratesF64, cratesDec, List.mem_cons, List.not_mem_nil, or_false] at hc ⊢
  tauto

/-- a declared derivation of the catalogue, binary back-end: it has a reference unit, its three
tables exist (every definition has a binary64 table) and are tables of the crate -/
theorem catalogue_derived_tables_f64 (items : List RawItem) (hc : items ∈ cratesF64)
    (it : RawItem) (hit : it ∈ items) (d : QtyDef) (h : expand it = .ok d) (ln rn : Text)
    (isMul : Bool) (hder : d.derived = some ⟨ln, isMul, rn⟩) :
    d.kind = .withRef ∧ ∃ TL TR TO, tableOf F64.arith items ln = some TL ∧
      tableOf F64.arith items rn = some TR ∧ RTable.ofDef F64.arith d = some TO ∧
      TableIn F64.arith items TL ∧ TableIn F64.arith items TR ∧ TableIn F64.arith items TO :=
  tableIn_of_derivedNamesOk F64.arith items
    (fun it hit d h => (catalogue_def it (crates_sub items hc it hit) d h).f64Table) it hit d h
    (List.all_eq_true.mp (List.all_eq_true.mp catalogue_derived_eval items hc) it hit)
    ln rn isMul hder

/-- the same in the decimal back-end (main crate and synthetic definitions) -/
theorem catalogue_derived_tables_dec (items : List RawItem) (hc : items ∈ cratesDec)
    (it : RawItem) (hit : it ∈ items) (d : QtyDef) (h : expand it = .ok d) (ln rn : Text)
    (isMul : Bool) (hder : d.derived = some ⟨ln, isMul, rn⟩) :
    d.kind = .withRef ∧ ∃ TL TR TO, tableOf Dec.arith items ln = some TL ∧
      tableOf Dec.arith items rn = some TR ∧ RTable.ofDef Dec.arith d = some TO ∧
      TableIn Dec.arith items TL ∧ TableIn Dec.arith items TR ∧ TableIn Dec.arith items TO :=
  have hc' := cratesDec_sub items hc
  tableIn_of_derivedNamesOk Dec.arith items
    (fun it hit d h => catalogue_dec_table_exists it (cratesDec_items items hc it hit) d h)
    it hit d h (List.all_eq_true.mp (List.all_eq_true.mp catalogue_derived_eval items hc') it hit)
    ln rn isMul hder

/-- a table of the catalogue has a natural reference unit -/
theorem TableIn.refNatural {A : Type} {R : Arith A} {M : ErrModel} (L : Laws R M) (B : LitOne R)
    {items : List RawItem} (hc : items ∈ cratesF64) {T : RTable A} (hT : TableIn R items T) :
    RefNatural R (T.qt R) := by
  cases hT with
  | amount => exact refNatural_amount L
  | ofDef it hit d h hk _ hT =>
    exact refNatural_generated L B h hk hT
      (catalogue_ref_unique it (crates_sub items hc it hit) d h)

/-- for every predefined (or synthetic) quantity declared as a product `Q = L * R`, with the operand
tables looked up by name as the run-time driver does: the tables exist and ALL FOUR generated
operators (`L * R = Q`, `R * L = Q`, `Q / R = L`, `Q / L = R`) map operands in reference units to a
result in the reference unit. No hypothesis is left. -/
theorem catalogue_dmul_ref_units_dec (items : List RawItem) (hc : items ∈ cratesDec)
    (it : RawItem) (hit : it ∈ items) (d : QtyDef) (h : expand it = .ok d) (ln rn : Text)
    (hder : d.derived = some ⟨ln, true, rn⟩) :
    ∃ TL TR TO, tableOf Dec.arith items ln = some TL ∧ tableOf Dec.arith items rn = some TR ∧
      RTable.ofDef Dec.arith d = some TO ∧
      MulRef Dec.arith TL TR TO ∧ MulRef Dec.arith TR TL TO ∧
      DivRef Dec.arith TO TR TL ∧ DivRef Dec.arith TO TL TR := by
  have hc' := cratesDec_sub items hc
  obtain ⟨-, TL, TR, TO, hTL, hTR, hTO, hL, hR, hO⟩ :=
    catalogue_derived_tables_dec items hc it hit d h ln rn true hder
  exact ⟨TL, TR, TO, hTL, hTR, hTO, product_ref_units Dec.laws (hL.refNatural Dec.laws litOne_dec hc')
    (hR.refNatural Dec.laws litOne_dec hc') (hO.refNatural Dec.laws litOne_dec hc')⟩

/-- declared quotients `Q = L / R`: `L / R = Q`, `Q * R = L`, `R * Q = L`, `L / Q = R` -/
theorem catalogue_ddiv_ref_units_dec (items : List RawItem) (hc : items ∈ cratesDec)
    (it : RawItem) (hit : it ∈ items) (d : QtyDef) (h : expand it = .ok d) (ln rn : Text)
    (hder : d.derived = some ⟨ln, false, rn⟩) :
    ∃ TL TR TO, tableOf Dec.arith items ln = some TL ∧ tableOf Dec.arith items rn = some TR ∧
      RTable.ofDef Dec.arith d = some TO ∧
      DivRef Dec.arith TL TR TO ∧ MulRef Dec.arith TO TR TL ∧
      MulRef Dec.arith TR TO TL ∧ DivRef Dec.arith TL TO TR := by
  have hc' := cratesDec_sub items hc
  obtain ⟨-, TL, TR, TO, hTL, hTR, hTO, hL, hR, hO⟩ :=
    catalogue_derived_tables_dec items hc it hit d h ln rn false hder
  exact ⟨TL, TR, TO, hTL, hTR, hTO, quotient_ref_units Dec.laws (hL.refNatural Dec.laws litOne_dec hc')
    (hR.refNatural Dec.laws litOne_dec hc') (hO.refNatural Dec.laws litOne_dec hc')⟩

/-- binary back-end (main crate, astronomical crate, synthetic definitions) -/
theorem catalogue_dmul_ref_units_f64 (items : List RawItem) (hc : items ∈ cratesF64)
    (it : RawItem) (hit : it ∈ items) (d : QtyDef) (h : expand it = .ok d) (ln rn : Text)
    (hder : d.derived = some ⟨ln, true, rn⟩) :
    ∃ TL TR TO, tableOf F64.arith items ln = some TL ∧ tableOf F64.arith items rn = some TR ∧
      RTable.ofDef F64.arith d = some TO ∧
      MulRef F64.arith TL TR TO ∧ MulRef F64.arith TR TL TO ∧
      DivRef F64.arith TO TR TL ∧ DivRef F64.arith TO TL TR := by
  obtain ⟨-, TL, TR, TO, hTL, hTR, hTO, hL, hR, hO⟩ :=
    catalogue_derived_tables_f64 items hc it hit d h ln rn true hder
  exact ⟨TL, TR, TO, hTL, hTR, hTO, product_ref_units F64.laws (hL.refNatural F64.laws litOne_f64 hc)
    (hR.refNatural F64.laws litOne_f64 hc) (hO.refNatural F64.laws litOne_f64 hc)⟩

theorem catalogue_ddiv_ref_units_f64 (items : List RawItem) (hc : items ∈ cratesF64)
    (it : RawItem) (hit : it ∈ items) (d : QtyDef) (h : expand it = .ok d) (ln rn : Text)
    (hder : d.derived = some ⟨ln, false, rn⟩) :
    ∃ TL TR TO, tableOf F64.arith items ln = some TL ∧ tableOf F64.arith items rn = some TR ∧
      RTable.ofDef F64.arith d = some TO ∧
      DivRef F64.arith TL TR TO ∧ MulRef F64.arith TO TR TL ∧
      MulRef F64.arith TR TO TL ∧ DivRef F64.arith TL TO TR := by
  obtain ⟨-, TL, TR, TO, hTL, hTR, hTO, hL, hR, hO⟩ :=
    catalogue_derived_tables_f64 items hc it hit d h ln rn false hder
  exact ⟨TL, TR, TO, hTL, hTR, hTO, quotient_ref_units F64.laws (hL.refNatural F64.laws litOne_f64 hc)
    (hR.refNatural F64.laws litOne_f64 hc) (hO.refNatural F64.laws litOne_f64 hc)⟩

/-- non-vacuity: `Area` and `Length` of the main crate satisfy every hypothesis of
`dmul_ref_units_generated_dec` / `_f64` (`Area = Length * Length`) -/
example : genWitness Dec.arith Gen.Catalogue.areaRaw (fun d _ => decide (RefIdentUnique d)) = true ∧
    genWitness Dec.arith Gen.Catalogue.lengthRaw (fun d _ => decide (RefIdentUnique d)) = true ∧
    genWitness F64.arith Gen.Catalogue.areaRaw (fun d _ => decide (RefIdentUnique d)) = true ∧
    genWitness F64.arith Gen.Catalogue.lengthRaw (fun d _ => decide (RefIdentUnique d)) = true := by
  decide +kernel

/-- "Length" -/
def lengthName : Text := [76, 101, 110, 103, 116, 104]

/-- non-vacuity of the catalogue theorems: `Area` is declared as `Length * Length`, `Speed` as
`Length / Duration`, `Frequency` as `AmountT / Duration` -/
example : Gen.Catalogue.areaRaw ∈ Gen.Catalogue.items ∧
    (match expand Gen.Catalogue.areaRaw with
     | .ok d => d.derived == some ⟨lengthName, true, lengthName⟩
     | .error _ => false) = true ∧
    (match expand Gen.Catalogue.speedRaw with
     | .ok d => d.derived == some ⟨lengthName, false, Gen.Catalogue.durationRaw.name⟩
     | .error _ => false) = true ∧
    (match expand Gen.Catalogue.frequencyRaw with
     | .ok d => d.derived == some ⟨amountName, false, Gen.Catalogue.durationRaw.name⟩
     | .error _ => false) = true := by
  decide +kernel

/-- and concretely, decimal back-end: `3 m * 2 m = 6 m²`, `6 m² / 2 m = 3 m`, in reference units
(`tableOf` resolves the names, `REF_UNIT` of `Length` is not its first unit) -/
example :
    (match tableOf Dec.arith Gen.Catalogue.items lengthName,
        tableOf Dec.arith Gen.Catalogue.items Gen.Catalogue.areaRaw.name with
     | some TL, some TO =>
       let L := TL.qt Dec.arith
       let O := TO.qt Dec.arith
       decide (dmul Dec.arith L L O ⟨⟨3, 0⟩, L.ref⟩ ⟨⟨2, 0⟩, L.ref⟩ = .ok ⟨⟨6, 0⟩, O.ref⟩) &&
       decide (ddiv Dec.arith O L L ⟨⟨6, 0⟩, O.ref⟩ ⟨⟨2, 0⟩, L.ref⟩ = .ok ⟨⟨3, 0⟩, L.ref⟩) &&
       decide (0 < L.ref)
     | _, _ => false) = true := by
  decide +kernel

/-- `dmul_ref_units_generated_*` need `RefIdentUnique` of the RESULT definition: for
`#[ref_unit(A, "a")] #[unit(A, "b", 0.5)]` (`Bridge.itDupRef`) `REF_UNIT` is variant `0` (the
first variant named `A`, scale `0.5`), while `1 * 1` of the dimensionless amount — whose unit is
its reference unit, of scale one — is answered in variant `1`, the unit of scale one -/
theorem ref_units_needs_unique_ident :
    ∃ d T, expand itDupRef = .ok d ∧ d.kind = .withRef ∧ RTable.ofDef Dec.arith d = some T ∧
      (fun d T => !decide (RefIdentUnique d) &&
        decide ((RTable.qt Dec.arith T).ref = 0) &&
        decide (((RTable.amount Dec.arith).qt Dec.arith).ref = 0) &&
        (match dmul Dec.arith ((RTable.amount Dec.arith).qt Dec.arith)
            ((RTable.amount Dec.arith).qt Dec.arith) (RTable.qt Dec.arith T)
            ⟨Dec.one, 0⟩ ⟨Dec.one, 0⟩ with
         | .ok res => res.unit == 1
         | .error _ => false)) d T = true :=
  genWitness_spec Dec.arith itDupRef _ (by decide +kernel)

/-- non-vacuity: `Length`, `Area` satisfy every hypothesis of
`dmul_mag_generated_dec` for `3 m * 2 m`, including the range condition for every unit of `Area` -/
example :
    (match expand Gen.Catalogue.lengthRaw, expand Gen.Catalogue.areaRaw with
     | .ok dL, .ok dO =>
       dL.kind == .withRef && dO.kind == .withRef && LitsPositive dO &&
       (match RTable.ofDef Dec.arith dL, RTable.ofDef Dec.arith dO with
        | some TL, some TO =>
          let m := (TL.qt Dec.arith).ref
          decide (m < TL.n) && decide (Dec.arith.val ⟨3, 0⟩ = some 3) &&
          decide (Dec.arith.val ⟨2, 0⟩ = some 2) &&
          (List.range TO.n).all (fun u =>
            Oracle.derivedSafe ErrModel.dec (3 * 2) (litVal dL m * litVal dL m) (litVal dO u))
        | _, _ => false)
     | _, _ => false) = true := by
  decide +kernel

/-- non-vacuity: in the generated `Length` table, `2 ft` and `25 in` satisfy
the hypotheses of `cmp_physical_generated_dec`, `addsub_mag_generated_dec` and
`div_ratio_generated_dec` (the gap is written with `ratAbs`, which is `|·|`:
`ratAbs_eq_abs`) -/
example : genWitness Dec.arith Gen.Catalogue.lengthRaw (fun d T =>
    LitsPositive d &&
    (match (List.range T.n).find? (fun u => decide (litVal d u = 3048 / 10000)),
        (List.range T.n).find? (fun u => decide (litVal d u = 254 / 10000)) with
     | some ft, some inch =>
       decide (ft < T.n) && decide (inch < T.n) && decide (ft ≠ inch) &&
       Oracle.convSafe ErrModel.dec (litVal d inch) (litVal d ft) 25 &&
       Oracle.convSafe ErrModel.dec (litVal d ft) (litVal d inch) 2 &&
       decide (max (Oracle.convBound ErrModel.dec (litVal d inch) (litVal d ft) 25)
           (Oracle.convBound ErrModel.dec (litVal d ft) (litVal d inch) 2)
         < ratAbs (2 * litVal d ft - 25 * litVal d inch)) &&
       ErrModel.dec.safe (ratAbs 2 + (ratAbs (litVal d inch / litVal d ft) * ratAbs 25
           + Oracle.convBoundIn ErrModel.dec (litVal d inch) (litVal d ft) 25)
         + ErrModel.dec.Ea (ratAbs 2 + (ratAbs (litVal d inch / litVal d ft) * ratAbs 25
           + Oracle.convBoundIn ErrModel.dec (litVal d inch) (litVal d ft) 25))) &&
       decide (Oracle.convBoundIn ErrModel.dec (litVal d inch) (litVal d ft) 25
         < ratAbs (litVal d inch / litVal d ft * 25)) &&
       ErrModel.dec.safe (ratAbs 2 / (ratAbs (litVal d inch / litVal d ft * 25)
           - Oracle.convBoundIn ErrModel.dec (litVal d inch) (litVal d ft) 25)
         + ErrModel.dec.E (ratAbs 2 / (ratAbs (litVal d inch / litVal d ft * 25)
           - Oracle.convBoundIn ErrModel.dec (litVal d inch) (litVal d ft) 25)))
     | _, _ => false)) = true := by
  decide +kernel

/-- the same range conditions in the binary back-end (`dmul_mag_generated_f64` for `3 m * 2 m`) -/
example :
    (match expand Gen.Catalogue.lengthRaw, expand Gen.Catalogue.areaRaw with
     | .ok dL, .ok dO =>
       dL.kind == .withRef && dO.kind == .withRef && LitsNormalF64 dL && LitsNormalF64 dO &&
       (match RTable.ofDef F64.arith dL, RTable.ofDef F64.arith dO with
        | some TL, some TO =>
          let m := (TL.qt F64.arith).ref
          decide (m < TL.n) &&
          (List.range TO.n).all (fun u =>
            Oracle.derivedSafe ErrModel.f64 (3 * 2) (f64Sc TL m * f64Sc TL m) (f64Sc TO u))
        | _, _ => false)
     | _, _ => false) = true := by
  decide +kernel

end Qty.Bridge
