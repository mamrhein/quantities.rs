import QtyModel.Ops
import QtyModel.Rate
import QtyModel.Generated.Algos
/- Tie between code and model: the definitions re-emitted from the Rust source (`Generated/Algos.lean`) ARE
   the model's, for `Div<Self>` as the rate operators reach it, for every kind of quantity type. -/
namespace Qty.AlgoTie
open Qty.Gen.Algos

variable {A : Type} (R : Arith A)

/-- the model's dispatch on the kind of type is the dispatch of the three templates -/
theorem qdiv_eq (TB : RTable A) (a b : Q A Nat) :
    Rate.qdiv R TB a b =
      match TB.kind with
      | .withRef => Kind.withRef.div R (TB.qt R) a b
      | .noRef => Kind.noRef.div R (TB.qt R) a b
      | .single => Kind.single.div R (TB.qt R) a b := by
  unfold Rate.qdiv
  cases TB.kind <;> rfl

end Qty.AlgoTie
