import QtyModel.Registry
import QtyModel.Generated.Algos
/-
  Tie between code and model for `codegen_unit_constants` (loop body re-emitted from the source).
-/
namespace Qty.AlgoTie
open Qty.Gen.Algos

/-- one constant per unit, named `UPPER_SNAKE` of the variant identifier, bound to that variant -/
theorem constants_of_units (units : List UnitDef) :
    Codegen.constants units = units.map (fun u => (u.constName, u.ident)) := rfl

end Qty.AlgoTie
