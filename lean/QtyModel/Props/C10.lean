import QtyModel.Ops
import QtyModel.Dec
import QtyModel.Lemmas.Res
/-
  C10 — Quantities without a reference unit never mix units silently.
-/
namespace Qty.C10

variable {A U : Type} [DecidableEq U] (R : Arith A)

/-- two values are equal only if they have the same unit and the same amount -/
theorem eq_iff (a b : Q A U) :
    nrEq R a b = true ↔ a.unit = b.unit ∧ R.beq a.amount b.amount = true := by
  simp [nrEq]

/-- values in different units are unordered -/
theorem pcmp_diff_unit (a b : Q A U) (h : a.unit ≠ b.unit) : nrPcmp R a b = none := by
  simp [nrPcmp, h]

theorem pcmp_same_unit (a b : Q A U) (h : a.unit = b.unit) :
    nrPcmp R a b = R.pcmp a.amount b.amount := by
  simp [nrPcmp, h]

/-- adding, subtracting or dividing values in different units panics (the documented panic) -/
theorem add_diff_unit (a b : Q A U) (h : a.unit ≠ b.unit) : nrAdd R a b = .error .unitMismatch := by
  simp [nrAdd, h]
theorem sub_diff_unit (a b : Q A U) (h : a.unit ≠ b.unit) : nrSub R a b = .error .unitMismatch := by
  simp [nrSub, h]
theorem div_diff_unit (a b : Q A U) (h : a.unit ≠ b.unit) : nrDiv R a b = .error .unitMismatch := by
  simp [nrDiv, h]

/-- with equal units the operations are exactly the amount type's own on the amounts -/
theorem add_same_unit (a b : Q A U) (h : a.unit = b.unit) :
    nrAdd R a b = (R.add a.amount b.amount).map (fun x => ⟨x, a.unit⟩) := by
  rw [nrAdd, if_pos h]; exact Res.bind_pure_eq_map ..
theorem sub_same_unit (a b : Q A U) (h : a.unit = b.unit) :
    nrSub R a b = (R.sub a.amount b.amount).map (fun x => ⟨x, a.unit⟩) := by
  rw [nrSub, if_pos h]; exact Res.bind_pure_eq_map ..
theorem div_same_unit (a b : Q A U) (h : a.unit = b.unit) :
    nrDiv R a b = R.div a.amount b.amount := by
  simp [nrDiv, h]

/-- a type with a single unit always reports that unit and never raises the unit-mismatch panic:
its operations are plain amount arithmetic -/
theorem single_unit_plain (hU : ∀ u v : U, u = v) (a b : Q A U) :
    nrAdd R a b = (R.add a.amount b.amount).map (fun x => ⟨x, a.unit⟩) ∧
    nrSub R a b = (R.sub a.amount b.amount).map (fun x => ⟨x, a.unit⟩) ∧
    nrDiv R a b = R.div a.amount b.amount :=
  ⟨add_same_unit R a b (hU _ _), sub_same_unit R a b (hU _ _), div_same_unit R a b (hU _ _)⟩

/-- the only panic of `+ - /` beyond the amount type's own is the documented unit mismatch, and it
is raised exactly for different units (C18, last sentence, for the generated types without
reference unit: `Rate.qdiv` shows how the generated `Div<Self>` dispatches on the kind) -/
theorem panic_cases (a b : Q A U) (p : Panic) :
    (nrAdd R a b = .error p → (p = .unitMismatch ∧ a.unit ≠ b.unit) ∨
      (a.unit = b.unit ∧ R.add a.amount b.amount = .error p)) ∧
    (nrSub R a b = .error p → (p = .unitMismatch ∧ a.unit ≠ b.unit) ∨
      (a.unit = b.unit ∧ R.sub a.amount b.amount = .error p)) ∧
    (nrDiv R a b = .error p → (p = .unitMismatch ∧ a.unit ≠ b.unit) ∨
      (a.unit = b.unit ∧ R.div a.amount b.amount = .error p)) := by
  by_cases hu : a.unit = b.unit
  · rw [add_same_unit R a b hu, sub_same_unit R a b hu, div_same_unit R a b hu]
    exact ⟨fun h => .inr ⟨hu, Res.map_eq_error.mp h⟩, fun h => .inr ⟨hu, Res.map_eq_error.mp h⟩,
      fun h => .inr ⟨hu, h⟩⟩
  · rw [add_diff_unit R a b hu, sub_diff_unit R a b hu, div_diff_unit R a b hu]
    refine ⟨fun h => .inl ⟨?_, hu⟩, fun h => .inl ⟨?_, hu⟩, fun h => .inl ⟨?_, hu⟩⟩ <;>
      (cases h; rfl)

theorem only_documented_panic (a b : Q A U) (p : Panic) (h : nrAdd R a b = .error p) :
    p = .unitMismatch ∨ R.add a.amount b.amount = .error p :=
  ((panic_cases R a b p).1 h).imp And.left And.right

/-- non-vacuity: concrete values in two different units / the same unit (decimal back-end) -/
example : nrAdd Dec.arith (⟨⟨1, 0⟩, (0 : Nat)⟩ : Q Dec Nat) ⟨⟨1, 0⟩, 1⟩ = .error .unitMismatch := by decide
example : nrAdd Dec.arith (⟨⟨15, 1⟩, (1 : Nat)⟩ : Q Dec Nat) ⟨⟨2, 0⟩, 1⟩ = .ok ⟨⟨35, 1⟩, 1⟩ := by decide
example : nrEq Dec.arith (⟨⟨1, 0⟩, (0 : Nat)⟩ : Q Dec Nat) ⟨⟨1, 0⟩, 1⟩ = false := by decide

end Qty.C10
