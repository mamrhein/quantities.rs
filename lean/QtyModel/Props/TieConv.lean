import QtyModel.Ops
import QtyModel.Generated.Algos
/- Tie between code and model: the definitions re-emitted from the Rust source (`Generated/Algos.lean`) ARE
   the model's, for `LinearScaledUnit::ratio`, `HasRefUnit::{equiv_amount, convert}`. -/
namespace Qty.AlgoTie
open Qty.Gen.Algos

variable {A U : Type} [DecidableEq U]
variable (R : Arith A) (T : QT A U)

set_option linter.unusedSectionVars false in
theorem ratio_eq (u v : U) : LinearScaledUnit.ratio R T u v = ratio R T u v := rfl

theorem equiv_amount_eq (q : Q A U) (u : U) : HasRefUnit.equiv_amount R T q u = equivAmount R T q u := rfl

theorem convert_eq (q : Q A U) (u : U) : HasRefUnit.convert R T q u = convert R T q u := rfl

end Qty.AlgoTie
