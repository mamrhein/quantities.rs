import QtyModel.Lemmas.Conv
import QtyModel.Lemmas.Res
import QtyModel.Lemmas.Basic
/-
  C01 — Unit conversion preserves the physical value.
-/
namespace Qty.C01

variable {A U : Type} [DecidableEq U] (R : Arith A) (T : QT A U)

/-- the converted value carries exactly the requested unit -/
theorem convert_unit (q r : Q A U) (u : U) (h : convert R T q u = .ok r) : r.unit = u :=
  Res.unit_of_map_eq_ok (convert_eq R T q u ▸ h)

/-- converting to the unit a value already has returns the identical amount
(structurally the same value: no rounding, NaN / -0 / digit count preserved) -/
theorem convert_same_unit (q : Q A U) : convert R T q q.unit = .ok ⟨q.amount, q.unit⟩ := by
  rw [convert_eq, equivAmount_self]
  rfl

/-- `equiv_amount` returns the same number that `convert` stores -/
theorem equiv_eq_convert (q : Q A U) (u : U) :
    (convert R T q u).map (·.amount) = equivAmount R T q u := by
  rw [convert_eq]
  cases equivAmount R T q u <;> rfl

/-- the physical magnitude (amount × unit scale) is preserved up to the rounding of the
amount type: the error is at most `|s₂|·(E((|ρ|+E ρ)|a|) + |a|·E ρ)` with `ρ = s₁/s₂` —
the same function the run-time oracle `Oracle.c01` evaluates on implementation outputs. -/
theorem convert_mag {M : ErrModel} (L : Laws R M) (q : Q A U) (u : U) (s1 s2 a : Rat)
    (hne : q.unit ≠ u)
    (hs1 : R.val (T.scale q.unit) = some s1) (hs2 : R.val (T.scale u) = some s2) (hs2ne : s2 ≠ 0)
    (ha : R.val q.amount = some a) (hsafe : Oracle.convSafe M s1 s2 a = true) :
    ∃ r y, convert R T q u = .ok r ∧ r.unit = u ∧ R.val r.amount = some y ∧
      ratAbs (y * s2 - a * s1) ≤ Oracle.convBound M s1 s2 a := by
  obtain ⟨c, y, hc, hy, hye, -⟩ := equiv_ok R T L hne hs1 hs2 hs2ne ha hsafe
  refine ⟨⟨c, u⟩, y, by rw [convert_eq, hc]; rfl, rfl, hy, ?_⟩
  rw [ratAbs_eq_abs]
  exact convBound_of_convBoundIn hs2ne hye

/-- non-vacuity: the hypotheses of `convert_mag` are met by a concrete conversion
(3.5 ft → in in the decimal back-end: scales 0.3048 and 0.0254) -/
example : Oracle.convSafe ErrModel.dec (3048 / 10000) (254 / 10000) (35 / 10) = true := by decide +kernel

end Qty.C01
