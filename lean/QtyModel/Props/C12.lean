import QtyModel.Props.C11
import QtyModel.Typing
import QtyModel.Lemmas.MacroFront
import QtyModel.Lemmas.ListFind
/-
  C12 — Malformed quantity definitions are rejected at compile time.
  (partial: `syn` and rustc are modelled)

  One theorem per defect class: EVERY raw definition having the defect is rejected by the
  model of the macro, and the error is attached to the offending attribute (or to the
  `#[quantity]` call site / the item, where the real macro uses `abort_call_site!` / reports
  the item).  Together with `C11.expand_ok_iff` the macro accepts exactly the well-formed ones.
-/
namespace Qty.C12
open Qty.MacroFront Qty.C11

/-- a definition with no unit -/
theorem no_unit (it : RawItem) (hs : it.isStruct = true) (hg : it.hasGenerics = false)
    (hf : it.hasFields = false) (h : unitAttrs it = []) (hr : (refAttrs it).length ≤ 1) :
    ∃ msg, expand it = .error ⟨.callSite, msg⟩ := by
  have hd := declared_spec it hs hg hf
  rw [if_neg (by omega), if_pos (by rw [h]; rfl)] at hd
  exact hd.imp fun _ e => expand_error_of_declared it _ e

/-- more than one reference unit: reported at the second `#[ref_unit]` attribute -/
theorem two_ref_units (it : RawItem) (hs : it.isStruct = true) (hg : it.hasGenerics = false)
    (hf : it.hasFields = false) (h : 2 ≤ (refAttrs it).length) :
    ∃ j msg a, expand it = .error ⟨.attr j, msg⟩ ∧ it.attrs[j]? = some a ∧ a.kind = .refUnit := by
  obtain ⟨j, a, msg, hj, hk, e⟩ := (if_pos h).mp (declared_spec it hs hg hf)
  exact ⟨j, msg, a, expand_error_of_declared it _ e, hj, hk⟩

/-- a scale on the reference unit: reported at the `#[ref_unit]` attribute -/
theorem scale_on_ref_unit (it : RawItem) (hs : it.isStruct = true) (hg : it.hasGenerics = false)
    (hf : it.hasFields = false) (hu : unitAttrs it ≠ []) (r : RawAttr) (hr : refAttrs it = [r])
    (u : UnitDef) (hp : parseUnit r.toks = some u) (hsc : u.scale.isSome = true) :
    ∃ j msg, expand it = .error ⟨.attr j, msg⟩ ∧ it.attrs[j]? = some r := by
  have hd := declared_spec it hs hg hf
  simp only [hr, List.isEmpty_eq_false_iff.mpr hu, hp, hsc, Bool.false_eq_true, if_false, if_true,
    List.length_cons, List.length_nil, Nat.reduceAdd, Nat.reduceLeDiff] at hd
  obtain ⟨j, hj, msg, e⟩ := hd
  exact ⟨j, msg, expand_error_of_declared it _ e, hj⟩

/-- a unit without scale next to a reference unit: reported at that `#[unit]` attribute -/
theorem unit_without_scale_beside_ref (it : RawItem) (hs : it.isStruct = true) (hg : it.hasGenerics = false)
    (hf : it.hasFields = false) (r : RawAttr) (hr : refAttrs it = [r])
    (rd : UnitDef) (hp : parseUnit r.toks = some rd) (hrs : rd.scale = none)
    (a : RawAttr) (ha : a ∈ unitAttrs it) (u : UnitDef) (hpu : parseUnit a.toks = some u) (hus : u.scale = none) :
    ∃ j msg b, expand it = .error ⟨.attr j, msg⟩ ∧ it.attrs[j]? = some b ∧ b.kind = .unit := by
  have hd := declared_spec it hs hg hf
  simp only [hr, List.isEmpty_eq_false_iff_exists_mem.mpr ⟨a, ha⟩, hp, hrs, Option.isSome_none,
    Bool.false_eq_true, if_false, List.length_cons, List.length_nil, Nat.reduceAdd,
    Nat.reduceLeDiff] at hd
  obtain ⟨-, -, hd⟩ := hd
  obtain ⟨j, b, msg, e, hj, hb⟩ := hd.error_of_bad ha (by simp [unitAttrOk, hpu, hus])
  exact ⟨j, msg, b, expand_error_of_declared it _ e, hj, hb⟩

/-- a scale or prefix without any reference unit: reported at a `#[unit]` attribute -/
theorem scale_or_prefix_without_ref (it : RawItem) (hs : it.isStruct = true) (hg : it.hasGenerics = false)
    (hf : it.hasFields = false) (hr : refAttrs it = [])
    (a : RawAttr) (ha : a ∈ unitAttrs it) (u : UnitDef) (hpu : parseUnit a.toks = some u)
    (hbad : u.scale.isSome = true ∨ u.pfx.isSome = true) :
    ∃ j msg b, expand it = .error ⟨.attr j, msg⟩ ∧ it.attrs[j]? = some b ∧ b.kind = .unit := by
  have hd := declared_spec it hs hg hf
  simp only [hr, List.isEmpty_eq_false_iff_exists_mem.mpr ⟨a, ha⟩, Bool.false_eq_true, if_false,
    List.length_nil] at hd
  obtain ⟨j, b, msg, e, hj, hb⟩ := hd.error_of_bad ha (by
    cases hs : u.scale <;> cases hx : u.pfx <;> simp [unitAttrOk, hpu, hs, hx] at hbad ⊢)
  exact ⟨j, msg, b, expand_error_of_declared it _ e, hj, hb⟩

/-- a wrong number or kind of attribute arguments (the token list is not one of the documented
forms): reported at an attribute, or at the call site when the definition has no `#[unit]`
attribute at all (the bad attribute is then its `#[ref_unit]`) -/
theorem bad_attribute_arguments (it : RawItem) (hs : it.isStruct = true) (hg : it.hasGenerics = false)
    (hf : it.hasFields = false) (hr : (refAttrs it).length ≤ 1)
    (a : RawAttr) (ha : a ∈ it.attrs) (hbad : parseUnit a.toks = none) :
    ∃ j msg, expand it = .error ⟨.attr j, msg⟩ ∨ expand it = .error ⟨.callSite, msg⟩ := by
  have hd := declared_spec it hs hg hf
  have err : ∀ {j msg}, declared it = .error ⟨.attr j, msg⟩ →
      ∃ j msg, expand it = .error ⟨.attr j, msg⟩ ∨ expand it = .error ⟨.callSite, msg⟩ :=
    fun e => ⟨_, _, .inl (expand_error_of_declared it _ e)⟩
  -- if `a` is a `#[unit]` attribute, the scan of the unit attributes fails in either mode
  have scan : ∀ {w mk}, a.kind = .unit → Scanned it w mk →
      ∃ j msg, expand it = .error ⟨.attr j, msg⟩ ∨ expand it = .error ⟨.callSite, msg⟩ := by
    intro w mk hk hd
    obtain ⟨i, -, msg, e, -, -⟩ := hd.error_of_bad
      (List.mem_filter.mpr ⟨ha, by simp [hk]⟩) (by rw [unitAttrOk, hbad])
    exact err e
  rw [if_neg (by omega)] at hd
  split at hd
  · obtain ⟨msg, e⟩ := hd
    exact ⟨0, msg, .inr (expand_error_of_declared it _ e)⟩
  have har : a.kind = .refUnit → a ∈ refAttrs it := fun hk => List.mem_filter.mpr ⟨ha, by simp [hk]⟩
  split at hd
  · next h0 =>
    refine scan ?_ hd
    cases hk : a.kind with
    | unit => rfl
    | refUnit => exact absurd (har hk) (by simp [h0])
  · next r l h1 =>
    obtain ⟨j, -, hd⟩ := hd
    split at hd
    · exact err hd.choose_spec
    · next rd hpr =>
      split at hd
      · exact err hd.choose_spec
      · refine scan ?_ hd
        cases hk : a.kind with
        | unit => rfl
        | refUnit =>
          obtain rfl : l = [] := List.length_eq_zero_iff.mp (by simpa [h1] using hr)
          obtain rfl : a = r := by simpa [h1] using har hk
          rw [hbad] at hpr; cases hpr

/-- struct fields, generic parameters, or an item that is not a struct: reported at the item -/
theorem bad_item (it : RawItem) (h : it.isStruct = false ∨ it.hasGenerics = true ∨ it.hasFields = true) :
    ∃ msg, expand it = .error ⟨.item, msg⟩ := by
  obtain ⟨msg, e⟩ := declared_item it h
  exact ⟨msg, expand_error_of_declared it _ e⟩

/-- a derivation argument other than a product or quotient of two identifiers -/
theorem bad_derivation_arg (it : RawItem) (h : WellFormedRaw { it with args := [] } = true)
    (hbad : argsOk it.args = false) : ∃ msg, expand it = .error ⟨.args, msg⟩ := by
  obtain ⟨dc, hd, -⟩ := (if_pos h).mp (declared_wf { it with args := [] } rfl)
  rw [expand_eq, ← declared_args it [], hd]
  rcases parseArgs_cases it.args with ⟨dv, e, -⟩ | ⟨msg, e⟩
  · simp [argsOk, e] at hbad
  · exact ⟨msg, by rw [e]⟩

/-- the accepted derivation arguments are exactly: nothing, `A * B`, `A / B` -/
theorem args_ok_iff (args : List Tok) :
    argsOk args = true ↔
      args = [] ∨ ∃ a b, args = [.ident a, .punct 42, .ident b] ∨ args = [.ident a, .punct 47, .ident b] := by
  constructor
  · intro h
    rcases parseArgs_cases args with ⟨dv, -, hf⟩ | ⟨msg, e⟩
    · exact hf
    · simp [argsOk, e] at h
  · rintro (rfl | ⟨a, b, rfl | rfl⟩) <;> rfl

/-- a derivation one of whose OPERAND types lacks a reference unit gives no usable operator: the
generated impls carry `HasRefUnit` bounds on both operands, and the impl table of the type checker
(`implTable` in `Typing.lean`, whose last segment this is) drops them -/
theorem derived_needs_ref_units (decls : List TyDecl) (i : OpImpl)
    (hi : i ∈ (decls.flatMap derivedImpls).filter (fun i => hasRefUnit decls i.lhs && hasRefUnit decls i.rhs)) :
    hasRefUnit decls i.lhs = true ∧ hasRefUnit decls i.rhs = true := by
  have := (List.mem_filter.mp hi).2
  simpa using this

/-- non-vacuity: the 'missing scale' program of tests/ui is rejected at its third attribute -/
example : expand
    { args := [], name := [70, 111, 111],
      attrs := [⟨.refUnit, [.ident [65], .comma, .str [97], .comma, .ident [77, 69, 71, 65]]⟩,
                ⟨.unit, [.ident [66], .comma, .str [98], .comma, .float { digits := 4, nfrac := 1, isFloat := true }]⟩,
                ⟨.unit, [.ident [67], .comma, .str [99]]⟩] }
    = .error ⟨.attr 2, "<scale> arg expected."⟩ := by
  decide +kernel

end Qty.C12
