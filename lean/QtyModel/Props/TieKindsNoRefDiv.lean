import QtyModel.Ops
import QtyModel.Generated.Algos
/- Tie between code and model: the definitions re-emitted from the Rust source (`Generated/Algos.lean`) ARE
   the model's, for which trait method `/` of a quantity type WITHOUT reference unit, and of a single-unit
   type, forwards to. -/
namespace Qty.AlgoTie
open Qty.Gen.Algos

variable {A U : Type} [DecidableEq U]
variable (R : Arith A) (T : QT A U)

theorem noRef_div (a b : Q A U) : Kind.noRef.div R T a b = nrDiv R a b := rfl
set_option linter.unusedSectionVars false in
theorem single_div (a b : Q A U) : Kind.single.div R T a b = R.div a.amount b.amount := rfl

end Qty.AlgoTie
