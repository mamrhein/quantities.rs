import QtyModel.Ops
import QtyModel.Rate
import QtyModel.Generated.Algos
/- Tie between code and model: the definitions re-emitted from the Rust source (`Generated/Algos.lean`) ARE
   the model's, for `src/rate.rs` and the rate operators of `codegen_impl_std_traits`. -/
namespace Qty.AlgoTie
open Qty.Gen.Algos

variable {A : Type} (R : Arith A)

theorem rate_from_qty_vals_eq (t p : Q A Nat) : Gen.Algos.Rate.from_qty_vals R t p = Rate.fromQtyVals t p := rfl

theorem rate_reciprocal_eq (r : Rate A) : Gen.Algos.Rate.reciprocal R r = Rate.reciprocal r := rfl

theorem rate_accessors (r : Rate A) :
    Gen.Algos.Rate.term_amount R r = r.termAmount ∧ Gen.Algos.Rate.term_unit R r = r.termUnit ∧
    Gen.Algos.Rate.per_unit_multiple R r = r.perMultiple ∧ Gen.Algos.Rate.per_unit R r = r.perUnit :=
  ⟨rfl, rfl, rfl, rfl⟩

theorem rate_new_eq (a : A) (u : Nat) (m : A) (p : Nat) : Gen.Algos.Rate.new R a u m p = ⟨a, u, m, p⟩ := rfl

/-- `Rate * PQ` (src/rate.rs) -/
theorem rate_mul_eq (TP : RTable A) (r : Rate A) (q : Q A Nat) :
    Gen.Algos.Rate.mul R (Rate.qdiv R TP) r q = Rate.mulQ R TP r q := rfl

/-- `PQ * Rate` (macro template) -/
theorem qty_mul_rate_eq (TP : RTable A) (r : Rate A) (q : Q A Nat) :
    Template.qty_mul_rate R (Rate.qdiv R TP) q r = Rate.mulQ R TP r q := rfl

/-- `TQ / Rate` (macro template) -/
theorem qty_div_rate_eq (TT : RTable A) (r : Rate A) (q : Q A Nat) :
    Template.qty_div_rate R (Rate.qdiv R TT) q r = Rate.divQ R TT q r := rfl

end Qty.AlgoTie
