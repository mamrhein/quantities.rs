import QtyModel.Props.TieFit
import QtyModel.Ops
import QtyModel.Generated.Algos
/- Tie between code and model: the definitions re-emitted from the Rust source (`Generated/Algos.lean`) ARE
   the model's, for the bodies of the derived `Mul` / `Div` operators inside the macro's `quote!`
   templates. -/
namespace Qty.AlgoTie
open Qty.Gen.Algos

variable {A U V W : Type} [DecidableEq U] [DecidableEq V] [DecidableEq W]
variable (R : Arith A)

set_option linter.unusedSectionVars false in
theorem template_mul_eq (TL : QT A U) (TR : QT A V) (TO : QT A W) (l : Q A U) (r : Q A V) :
    Template.mul R TL TR TO l r = dmul R TL TR TO l r := by
  unfold Template.mul dmul
  simp only [fitOf_eq, unit_from_scale_eq]
  rfl

set_option linter.unusedSectionVars false in
theorem template_sqared_mul_eq (TL : QT A U) (TO : QT A W) (l r : Q A U) :
    Template.sqared_mul R TL TO l r = dmul R TL TL TO l r := by
  unfold Template.sqared_mul dmul
  simp only [fitOf_eq, unit_from_scale_eq]
  rfl

set_option linter.unusedSectionVars false in
theorem template_div_eq (TL : QT A U) (TR : QT A V) (TO : QT A W) (l : Q A U) (r : Q A V) :
    Template.div R TL TR TO l r = ddiv R TL TR TO l r := by
  unfold Template.div ddiv
  simp only [fitOf_eq, unit_from_scale_eq]
  rfl

end Qty.AlgoTie
