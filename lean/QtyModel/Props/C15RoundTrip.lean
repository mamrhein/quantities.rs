import QtyModel.Props.C15
import QtyModel.Props.C15Dec
import QtyModel.Props.C15F64
import QtyModel.Props.C09
import QtyModel.Props.C17
import QtyModel.Lemmas.F64Laws
import QtyModel.Lemmas.Digits
import QtyModel.Lemmas.Basic
import QtyModel.Lemmas.Pad
import QtyModel.Lemmas.DecLaws
import QtyModel.Lemmas.F64Canonical
/-
  C15 — END-TO-END statements: display, split, parse, look up.

  `C15.lean` (shape, width, placement, split), `C15Dec.lean` / `C15F64.lean` (the amount text of
  either back-end), `C09.lean` (`from_symbol`) and `C17.lean` (`FromStr for Decimal`) prove the
  pieces.  This file composes them into statements about WHAT THE DRIVER COMPUTES for the ops
  `fmt` and `fmtrt` (`Main.lean`, `step`):

    fmt   : `expected := Fmt.qtyFmt sp nonneg amtT sym`  with  `nonneg := R.ge a R.zero`,
            `amtT := f sp.prec a`  (`f = AT.absText`)
    fmtrt : `exp := if sym.isEmpty then (if nonneg then [] else [45]) ++ f none a
                    else Fmt.qtyFmt {} nonneg (f none a) sym`

  with `f = Fmt.decAbsText` for the decimal back-end and `f = f64AmountText` (defined in `Main.lean`,
  repeated verbatim below because `Main` is the root of the executable and not a module of the
  library) for binary64.
-/
namespace Qty.C15
open Qty.Fmt Qty.Digits Qty.F64 Qty.C15F64

/-- op `fmt`, unit with a non-empty symbol: the driver's `expected` under the specification `sp` -/
def displayWith {A : Type} (R : Arith A) (f : Option Nat → A → Text) (sp : Spec) (a : A) (sym : Text) : Text :=
  qtyFmt sp (R.ge a R.zero) (f sp.prec a) sym

/-- op `fmtrt` (default specification `{}`): the driver's `exp`, unit-less values included -/
def display {A : Type} (R : Arith A) (f : Option Nat → A → Text) (a : A) (sym : Text) : Text :=
  let nonneg := R.ge a R.zero
  if sym.isEmpty then (if nonneg then [] else [45]) ++ f none a
  else qtyFmt {} nonneg (f none a) sym

/-- `Main.f64AmountText`, verbatim: `Display` of `if amount >= 0 { amount } else { -amount }` -/
def f64AmountText (prec : Option Nat) (a : F64) : Text :=
  let b : F64 := if F64.arith.ge a F64.arith.zero then a else
    (match F64.arith.neg a with
     | .ok n => n
     | .error _ => a)
  F64.text prec b

/-- the driver's `nonneg` (`amount >= 0`), binary64 back-end -/
def f64Nonneg (x : F64) : Bool := F64.arith.ge x F64.arith.zero

/-- `{}` of a decimal value with the unit symbol `sym` (`[]` = unit-less) -/
def displayDec (d : Dec) (sym : Text) : Text := display Dec.arith decAbsText d sym
/-- `{}` of a binary64 value with the unit symbol `sym` (`[]` = unit-less) -/
def displayF64 (x : F64) (sym : Text) : Text := display F64.arith f64AmountText x sym
/-- `{:spec}` of a decimal value, non-empty symbol -/
def displayDecWith (sp : Spec) (d : Dec) (sym : Text) : Text := displayWith Dec.arith decAbsText sp d sym
/-- `{:spec}` of a binary64 value, non-empty symbol -/
def displayF64With (sp : Spec) (x : F64) (sym : Text) : Text := displayWith F64.arith f64AmountText sp x sym

/-! ### the shape of the displayed text, any amount type

The unit-less text `display R f a []` is the amount part of every text displayed under the default
specification, so what is read back from a displayed text is a statement about the unit-less one. -/

theorem signOf_noplus {sp : Spec} (h : sp.plus = false) (nonneg : Bool) :
    signOf sp nonneg = signText (!nonneg) := by
  cases nonneg <;> simp [signOf, signText, h]

theorem display_nil {A : Type} {R : Arith A} {f : Option Nat → A → Text} {a : A} :
    display R f a [] = signOf {} (R.ge a R.zero) ++ f none a := by
  show (if R.ge a R.zero then [] else [45]) ++ _ = _
  cases R.ge a R.zero <;> rfl

theorem display_eq {A : Type} {R : Arith A} {f : Option Nat → A → Text} {a : A} {sym : Text} :
    display R f a sym = display R f a [] ++ if sym = [] then [] else [32] ++ sym := by
  cases sym with
  | nil => exact (List.append_nil _).symm
  | cons c cs =>
    show qtyFmt {} _ _ _ = _
    rw [fmt_shape _ _ _ _ rfl, display_nil, if_neg (List.cons_ne_nil c cs), List.append_assoc]

theorem display_split {A : Type} {R : Arith A} {f : Option Nat → A → Text} {a : A} {sym : Text}
    (hne : sym ≠ []) (hsp : ∀ c ∈ sym, c ≠ 32) :
    splitLastSpace (display R f a sym) = (display R f a [], sym) := by
  rw [display_eq (sym := sym), if_neg hne, ← List.append_assoc, fmt_splits _ _ hsp]

theorem displayWith_split {A : Type} {R : Arith A} {f : Option Nat → A → Text} {sp : Spec} {a : A}
    {sym : Text} (hw : sp.width = none) (hsp : ∀ c ∈ sym, c ≠ 32) :
    splitLastSpace (displayWith R f sp a sym) = (signOf sp (R.ge a R.zero) ++ f sp.prec a, sym) := by
  rw [displayWith, fmt_shape _ _ _ _ hw, fmt_splits _ _ hsp]

theorem dec_signed_text {sp : Spec} (hplus : sp.plus = false) (prec : Option Nat) (d : Dec) :
    signOf sp (Dec.arith.ge d Dec.arith.zero) ++ decAbsText prec d
      = signText (decide (d.coeff < 0)) ++ decAbsText prec d := by
  rw [Dec.ge_zero, signOf_noplus hplus, Bool.not_not]

/-- binary64: `amount >= 0` holds for every finite value except the negative non-zero ones — in
particular for `-0.0` -/
theorem f64Nonneg_fin (s : Bool) (m : Nat) (e : Int) :
    f64Nonneg (.fin s m e) = !(s && !decide (m = 0)) := by
  show (F64.pcmp (.fin s m e) (.fin false 0 eMin) == some .gt ||
    F64.pcmp (.fin s m e) (.fin false 0 eMin) == some .eq) = _
  rw [pcmp_fin, tr_eq_zero.mpr rfl]
  refine (ge_of_cmp (tr s m e < 0) _).trans ?_
  by_cases hm : m = 0
  · rw [tr_eq_zero.mpr hm, decide_eq_false (lt_irrefl _), decide_eq_true hm, Bool.not_true,
      Bool.and_false]
  · rw [decide_tr_neg s m e hm, decide_eq_false hm, Bool.not_false, Bool.and_true]

theorem f64Nonneg_inf (s : Bool) : f64Nonneg (.inf s) = !s := by cases s <;> rfl
theorem f64Nonneg_nan : f64Nonneg .nan = false := rfl

/-- binary64: the amount text of a finite value is the text of `|x|`, with a minus of its own for
the negative zero (`-0.0 >= 0` holds, so `-0.0` itself is handed to `Display`) -/
theorem f64AmountText_fin (prec : Option Nat) (s : Bool) (m : Nat) (e : Int) :
    f64AmountText prec (.fin s m e) = signText (s && decide (m = 0)) ++ absText prec (.fin s m e) := by
  have hn : F64.arith.ge (.fin s m e) F64.arith.zero = !(s && !decide (m = 0)) := f64Nonneg_fin s m e
  rw [f64AmountText, hn]
  cases s <;> cases decide (m = 0) <;> rfl

theorem f64AmountText_inf (prec : Option Nat) (s : Bool) : f64AmountText prec (.inf s) = infText := by
  cases s <;> rfl
theorem f64AmountText_nan (prec : Option Nat) : f64AmountText prec .nan = nanText := rfl

/-- binary64, no `+` flag: for everything but NaN the amount part is the `Display` text of the
`f64` (`-0` for the negative zero: the minus then comes from the amount text, not from the sign) -/
theorem f64_signed_text {sp : Spec} (hplus : sp.plus = false) (prec : Option Nat) (x : F64)
    (hx : x ≠ .nan) :
    signOf sp (F64.arith.ge x F64.arith.zero) ++ f64AmountText prec x = F64.text prec x := by
  rw [signOf_noplus hplus]
  cases x with
  | nan => exact absurd rfl hx
  | inf s => cases s <;> rfl
  | fin s m e =>
    have hn : F64.arith.ge (.fin s m e) F64.arith.zero = !(s && !decide (m = 0)) := f64Nonneg_fin s m e
    rw [hn, f64AmountText_fin, text_fin, ← List.append_assoc]
    cases s <;> cases decide (m = 0) <;> rfl

/-- unit-less values: the whole text reads back as `d` -/
theorem display_roundtrip_dec_unitless (d : Dec) (h : d.nfd ≤ 18) :
    Serde.decOfText (displayDec d []) = some d := by
  rw [displayDec, display_nil, dec_signed_text rfl, ← C17.decText_eq]
  exact C17.dec_amount_roundtrip d h

/-- unit-less values: the whole text reads back as `x` -/
theorem display_roundtrip_f64_unitless (x : F64) (hc : Canonical x) (hx : x ≠ .nan) :
    parseText (displayF64 x []) = some x := by
  rw [displayF64, display_nil, f64_signed_text rfl none x hx]
  exact text_none_roundtrip x hc

/-- ROUND TRIP (binary64).  For every canonical datum except NaN — zeros of BOTH signs,
subnormals, normal numbers of both signs, and both infinities — and every non-empty symbol
without a space: the amount part reads back (`f64::from_str`, correctly rounded) as exactly `x`
(the same datum, hence bit-identical) and the symbol part is the symbol. -/
theorem display_roundtrip_f64 (x : F64) (hc : Canonical x) (hx : x ≠ .nan) (sym : Text) (hne : sym ≠ [])
    (hsp : ∀ c ∈ sym, c ≠ 32) :
    parseText (splitLastSpace (displayF64 x sym)).1 = some x ∧
    (splitLastSpace (displayF64 x sym)).2 = sym := by
  rw [displayF64, display_split hne hsp]
  exact ⟨display_roundtrip_f64_unitless x hc hx, rfl⟩

/-- in terms of bit patterns: every pattern that is not a NaN -/
theorem display_roundtrip_f64_bits (b : Nat) (hx : ofBits b ≠ .nan) (sym : Text) (hne : sym ≠ [])
    (hsp : ∀ c ∈ sym, c ≠ 32) :
    (parseText (splitLastSpace (displayF64 (ofBits b) sym)).1).map toBits = some (toBits (ofBits b)) ∧
    (splitLastSpace (displayF64 (ofBits b) sym)).2 = sym := by
  obtain ⟨h1, h2⟩ := display_roundtrip_f64 _ (ofBits_canonical b) hx sym hne hsp
  exact ⟨by rw [h1]; rfl, h2⟩

/-- THE SYMBOL RESOLVES.  If the symbols of the unit list are pairwise different, the symbol
part of the displayed text (any amount type, any amount) looks up to the unit displayed. -/
theorem display_symbol_resolves {A : Type} (R : Arith A) (f : Option Nat → A → Text) (a : A)
    (units : List UnitDef) (hn : (units.map (·.symbol)).Nodup) (u : UnitDef) (hu : u ∈ units)
    (hne : u.symbol ≠ []) (hsp : ∀ c ∈ u.symbol, c ≠ 32) :
    C09.fromSymbol units (splitLastSpace (display R f a u.symbol)).2 = some u := by
  rw [display_split hne hsp]
  exact C09.from_symbol_unique units hn u hu

/-- the same under the weaker hypothesis that only THIS symbol is unique in the list -/
theorem display_symbol_resolves_only {A : Type} (R : Arith A) (f : Option Nat → A → Text) (a : A)
    (units : List UnitDef) (u : UnitDef) (hu : u ∈ units)
    (hon : ∀ v ∈ units, v.symbol = u.symbol → v = u)
    (hne : u.symbol ≠ []) (hsp : ∀ c ∈ u.symbol, c ≠ 32) :
    C09.fromSymbol units (splitLastSpace (display R f a u.symbol)).2 = some u := by
  rw [display_split hne hsp]
  exact C09.from_symbol_of_only units u hu hon

/-- without any uniqueness: the look-up finds the FIRST unit (in iteration order) that has the
displayed symbol -/
theorem display_symbol_resolves_first {A : Type} (R : Arith A) (f : Option Nat → A → Text) (a : A)
    (units : List UnitDef) (u : UnitDef) (hu : u ∈ units)
    (hne : u.symbol ≠ []) (hsp : ∀ c ∈ u.symbol, c ≠ 32) :
    ∃ v pre post, C09.fromSymbol units (splitLastSpace (display R f a u.symbol)).2 = some v ∧
      units = pre ++ v :: post ∧ v.symbol = u.symbol ∧ ∀ w ∈ pre, w.symbol ≠ u.symbol := by
  rw [display_split hne hsp]
  exact C09.from_symbol_mem units u hu

/-- reading a displayed text: split at the last space, parse the amount, look the symbol up -/
def readBack {A : Type} (parse : Text → Option A) (units : List UnitDef) (t : Text) : Option (A × UnitDef) :=
  match parse (splitLastSpace t).1, C09.fromSymbol units (splitLastSpace t).2 with
  | some a, some u => some (a, u)
  | _, _ => none

/-- END TO END, any amount type and any reader that reads the unit-less text back: display,
split, parse, look up returns the original (amount, unit) -/
theorem display_read {A : Type} (R : Arith A) (f : Option Nat → A → Text) (parse : Text → Option A)
    (a : A) (h : parse (display R f a []) = some a) (units : List UnitDef)
    (hn : (units.map (·.symbol)).Nodup) (u : UnitDef) (hu : u ∈ units)
    (hne : u.symbol ≠ []) (hsp : ∀ c ∈ u.symbol, c ≠ 32) :
    readBack parse units (display R f a u.symbol) = some (a, u) := by
  rw [readBack, display_symbol_resolves R f a units hn u hu hne hsp, display_split hne hsp, h]

/-- END TO END (decimal): display, split, parse, look up returns the original (amount, unit) -/
theorem display_read_dec (d : Dec) (h : d.nfd ≤ 18) (units : List UnitDef)
    (hn : (units.map (·.symbol)).Nodup) (u : UnitDef) (hu : u ∈ units)
    (hne : u.symbol ≠ []) (hsp : ∀ c ∈ u.symbol, c ≠ 32) :
    readBack Serde.decOfText units (displayDec d u.symbol) = some (d, u) :=
  display_read _ _ _ d (display_roundtrip_dec_unitless d h) units hn u hu hne hsp

/-- END TO END (binary64): display, split, parse, look up returns the original (amount, unit),
for every canonical datum except NaN (both zeros, both infinities included) -/
theorem display_read_f64 (x : F64) (hc : Canonical x) (hx : x ≠ .nan) (units : List UnitDef)
    (hn : (units.map (·.symbol)).Nodup) (u : UnitDef) (hu : u ∈ units)
    (hne : u.symbol ≠ []) (hsp : ∀ c ∈ u.symbol, c ≠ 32) :
    readBack parseText units (displayF64 x u.symbol) = some (x, u) :=
  display_read _ _ _ x (display_roundtrip_f64_unitless x hc hx) units hn u hu hne hsp

/-- EXCLUDED CASE: NaN is displayed as `-NaN <symbol>` (`NaN >= 0` is false, the negation of NaN
prints `NaN`), and `-NaN` is not a text the model's reader `F64.parseText` accepts (it knows `NaN`,
`inf`, `-inf` and plain decimals): NaN does not come back -/
theorem display_read_f64_nan (units : List UnitDef) (u : UnitDef)
    (hne : u.symbol ≠ []) (hsp : ∀ c ∈ u.symbol, c ≠ 32) :
    readBack parseText units (displayF64 .nan u.symbol) = none := by
  have h : parseText (display F64.arith f64AmountText .nan []) = none := by decide
  rw [displayF64, readBack, display_split hne hsp, h]

/-- decimal, any precision (fpdec clamps it to 18, `effPrec`): sign and amount text together read
as a decimal with that many fractional digits, within half a unit in the last place of `d` -/
theorem dec_signed_close (prec : Option Nat) (d : Dec) :
    ∃ w, parseDecText (signText (decide (d.coeff < 0)) ++ decAbsText prec d) = some (w, effPrec prec d) ∧
      |w - d.toRat| ≤ 1 / (2 * (10 : ℚ) ^ effPrec prec d) := by
  have h := (decAbsText_plain prec d).parseDec_close (decide (d.coeff < 0)) (decDigits_bound d)
  have hs : (if decide (d.coeff < 0) then -|d.toRat| else |d.toRat|) = d.toRat := by
    simp only [decide_eq_true_eq, ← Dec.toRat_neg_iff]
    split
    · next hn => rw [abs_of_neg hn, neg_neg]
    · next hn => exact abs_of_nonneg (not_lt.mp hn)
  rwa [hs] at h

/-- PRECISION (decimal), `p ≤ 18`, no width, without the `+` flag: the amount part of the displayed
text — minus included — is a decimal with exactly `p` fractional digits within `½·10⁻ᵖ` of `d`.
(For `p > 18` fpdec clamps to 18 digits: `dec_precision_clamped`, a known finding.) -/
theorem display_precision_dec_signed (sp : Spec) (p : Nat) (hpr : sp.prec = some p) (hp : p ≤ 18)
    (hw : sp.width = none) (hplus : sp.plus = false) (d : Dec) (sym : Text) (hsp : ∀ c ∈ sym, c ≠ 32) :
    ∃ w, parseDecText (splitLastSpace (displayDecWith sp d sym)).1 = some (w, p) ∧
      |w - d.toRat| ≤ 1 / (2 * (10 : ℚ) ^ p) := by
  have h := dec_signed_close (some p) d
  rw [effPrec_of_le hp] at h
  rwa [displayDecWith, displayWith_split hw hsp, dec_signed_text hplus, hpr]

/-- the `{:.p}` text of `x = ±m·2^e`, sign included, reads as a decimal within `½·10⁻ᵖ` of the value of `x` -/
theorem text_prec_close (s : Bool) (m : Nat) (e : Int) (p : Nat) :
    ∃ w, parseDecText (F64.text (some p) (.fin s m e)) = some (w, p) ∧
      |w - tr s m e| ≤ 1 / (2 * (10 : ℚ) ^ p) := by
  rw [text_fin, absText_some, tr, ite_mul, ite_mul, neg_one_mul, one_mul, neg_mul]
  exact (fixedText_plain (fixedDigits m e p) p).parseDec_close s (fixedDigits_bound m e p)

/-- PRECISION (binary64), any `p`, no width, without the `+` flag: the amount part of the displayed
text is the `{:.p}` text of the `f64` itself (`F64.text`), and it reads as a decimal with exactly
`p` fractional digits within `½·10⁻ᵖ` of the value of `x` -/
theorem display_precision_f64_signed (sp : Spec) (p : Nat) (hpr : sp.prec = some p) (hw : sp.width = none)
    (hplus : sp.plus = false) (s : Bool) (m : Nat) (e : Int) (sym : Text) (hsp : ∀ c ∈ sym, c ≠ 32) :
    (splitLastSpace (displayF64With sp (.fin s m e) sym)).1 = F64.text (some p) (.fin s m e) ∧
    ∃ w, parseDecText (splitLastSpace (displayF64With sp (.fin s m e) sym)).1 = some (w, p) ∧
      |w - tr s m e| ≤ 1 / (2 * (10 : ℚ) ^ p) := by
  rw [displayF64With, displayWith_split hw hsp, f64_signed_text hplus _ _ F64.noConfusion, hpr]
  exact ⟨rfl, text_prec_close s m e p⟩

/-- infinities and NaN ignore the precision: `inf␠symbol`, `-inf␠symbol`, `-NaN␠symbol` -/
theorem display_precision_f64_nonfinite (sp : Spec) (hw : sp.width = none) (hplus : sp.plus = false)
    (sym : Text) :
    displayF64With sp (.inf false) sym = infText ++ [32] ++ sym ∧
    displayF64With sp (.inf true) sym = 45 :: infText ++ [32] ++ sym ∧
    displayF64With sp .nan sym = 45 :: nanText ++ [32] ++ sym := by
  have h (x : F64) : displayF64With sp x sym
      = signText (!f64Nonneg x) ++ f64AmountText sp.prec x ++ [32] ++ sym := by
    rw [displayF64With, displayWith, fmt_shape _ _ _ _ hw, signOf_noplus hplus, f64Nonneg]
  exact ⟨h _, h _, h _⟩

/-- binary64: the amount text contains a minus only for the negative zero -/
theorem f64AmountText_minus (prec : Option Nat) (x : F64) :
    (f64AmountText prec x).count 45 = if x.signBit && x.isZero then 1 else 0 := by
  cases x with
  | nan => rw [f64AmountText_nan]; decide
  | inf s => rw [f64AmountText_inf]; cases s <;> decide
  | fin s m e =>
    rw [f64AmountText_fin, List.count_append, absText_no_minus]
    show _ = if s && decide (m = 0) then 1 else 0
    cases s && decide (m = 0) <;> rfl

theorem count_rep_ne (n c x : Nat) (h : c ≠ x) : (rep n c).count x = 0 := by
  rw [List.count_eq_zero]
  intro hm
  exact h (List.eq_of_mem_replicate (show x ∈ List.replicate n c from hm)).symm

theorem signOf_minus (sp : Spec) (nonneg : Bool) (t : Text) :
    (signOf sp nonneg ++ t).count 45 = (if nonneg then 0 else 1) + t.count 45 ∧
    (nonneg = false → signOf sp nonneg ++ t = 45 :: t) := by
  cases nonneg
  · exact ⟨List.count_cons_self.trans (Nat.add_comm _ _), fun _ => rfl⟩
  · refine ⟨?_, nofun⟩
    rw [List.count_append]
    congr 1
    rcases sp with ⟨_, _, _ | _, _, _, _⟩ <;> rfl

/-- PLACEMENT in one formula, for every specification (width, fill, alignment, `+`, `0`):
`fill* sign 0* amount␠symbol fill*` — the zeros only with the `0` flag (and then no fill), the
sign directly in front of the zeros / the amount -/
theorem display_placement {A : Type} (R : Arith A) (f : Option Nat → A → Text) (sp : Spec) (a : A)
    (sym : Text) :
    ∃ lead zeros trail : Nat,
      displayWith R f sp a sym =
        rep lead (sp.fill.getD 32) ++ (signOf sp (R.ge a R.zero) ++ rep zeros 48 ++ f sp.prec a) ++ [32] ++ sym
          ++ rep trail (sp.fill.getD 32) ∧
      (sp.zero = true → lead = 0 ∧ trail = 0) ∧ (sp.zero = false → zeros = 0) := by
  exact ⟨_, _, _, by rw [displayWith, qtyFmt, padNumeric_eq]; simp only [List.append_assoc]; rfl,
    padding_zero sp _⟩

/-- SINGLE MINUS, generic: the segment `sign 0* amount` of the displayed text has one minus more
than the amount text when `amount >= 0` is false — and then it is its FIRST character — and as
many otherwise -/
theorem core_minus (sp : Spec) (nonneg : Bool) (zeros : Nat) (amt : Text) :
    (signOf sp nonneg ++ rep zeros 48 ++ amt).count 45 = (if nonneg then 0 else 1) + amt.count 45 ∧
    (nonneg = false →
      ∃ r, signOf sp nonneg ++ rep zeros 48 ++ amt = 45 :: r ∧ r.count 45 = amt.count 45) := by
  have hz : (rep zeros 48 ++ amt).count 45 = amt.count 45 := by
    rw [List.count_append, count_rep_ne _ _ _ (by decide), Nat.zero_add]
  obtain ⟨h1, h2⟩ := signOf_minus sp nonneg (rep zeros 48 ++ amt)
  rw [List.append_assoc]
  exact ⟨by rw [h1, hz], fun hn => ⟨_, h2 hn, hz⟩⟩

/-- SINGLE MINUS (decimal), every specification and every precision: the displayed text is
`fill* core ␠symbol fill*` with `core = sign 0* amount`; `core` contains a minus iff `amount >= 0`
is false, i.e. iff the coefficient is negative, exactly one, in first position. -/
theorem display_single_minus_dec (sp : Spec) (d : Dec) (sym : Text) :
    ∃ (lead trail : Nat) (core : Text),
      displayDecWith sp d sym = rep lead (sp.fill.getD 32) ++ core ++ [32] ++ sym ++ rep trail (sp.fill.getD 32) ∧
      core.count 45 = (if d.coeff < 0 then 1 else 0) ∧
      (d.coeff < 0 → ∃ r, core = 45 :: r ∧ r.count 45 = 0) := by
  obtain ⟨lead, zeros, trail, h, -⟩ := display_placement Dec.arith decAbsText sp d sym
  obtain ⟨h1, h2⟩ := core_minus sp (Dec.arith.ge d Dec.arith.zero) zeros (decAbsText sp.prec d)
  rw [decAbsText_no_minus] at h1 h2
  exact ⟨lead, trail, _, h, h1.trans (Dec.ite_ge_zero d), fun hc => h2 ((Dec.ge_zero_false d).mpr hc)⟩

/-- the whole displayed text, when neither the fill character nor the symbol is/contains a minus -/
theorem display_minus_count_dec (sp : Spec) (d : Dec) (sym : Text) (hf : sp.fill.getD 32 ≠ 45)
    (hs : sym.count 45 = 0) :
    (displayDecWith sp d sym).count 45 = if d.coeff < 0 then 1 else 0 := by
  obtain ⟨lead, trail, core, h, h1, -⟩ := display_single_minus_dec sp d sym
  rw [h]
  simp only [List.count_append, count_rep_ne _ _ _ hf, h1, hs]
  exact Nat.zero_add _

/-- default specification, unit-less values included: a negative decimal value is displayed with
exactly one minus, in first position; a non-negative one with none (symbols without a minus) -/
theorem display_default_minus_dec (d : Dec) (sym : Text) (hs : sym.count 45 = 0) :
    (displayDec d sym).count 45 = (if d.coeff < 0 then 1 else 0) ∧
    (d.coeff < 0 → ∃ r, displayDec d sym = 45 :: r ∧ r.count 45 = 0) := by
  rw [displayDec, display_eq, display_nil, List.append_assoc]
  have ht : (decAbsText none d ++ if sym = [] then ([] : Text) else [32] ++ sym).count 45 = 0 := by
    rw [List.count_append, decAbsText_no_minus, Nat.zero_add]
    by_cases hne : sym = []
    · rw [if_pos hne]; rfl
    · rw [if_neg hne, List.count_append, hs]; rfl
  refine ⟨(signOf_minus _ _ _).1.trans ?_,
    fun hc => ⟨_, (signOf_minus _ _ _).2 ((Dec.ge_zero_false d).mpr hc), ht⟩⟩
  rw [ht, Nat.add_zero, Dec.ite_ge_zero]

/-- SINGLE MINUS (binary64), every specification and precision — PARTIAL with respect to the
property text: `core = sign 0* amount` contains AT MOST one minus, exactly one iff the value is NaN
or has its sign bit set.  "Exactly one iff `amount >= 0` is false" holds for everything except the
negative zero: `-0.0 >= 0` is true, the sign text is empty (or `+`), and the minus comes from the
amount text (`Display` of `-0.0` is `-0`), see `display_negzero_f64`. -/
theorem display_single_minus_f64_partial (sp : Spec) (x : F64) (sym : Text) :
    ∃ (lead zeros trail : Nat),
      displayF64With sp x sym =
        rep lead (sp.fill.getD 32) ++ (signOf sp (f64Nonneg x) ++ rep zeros 48 ++ f64AmountText sp.prec x)
          ++ [32] ++ sym ++ rep trail (sp.fill.getD 32) ∧
      (signOf sp (f64Nonneg x) ++ rep zeros 48 ++ f64AmountText sp.prec x).count 45
        = (if f64Nonneg x then 0 else 1) + (if x.signBit && x.isZero then 1 else 0) ∧
      (signOf sp (f64Nonneg x) ++ rep zeros 48 ++ f64AmountText sp.prec x).count 45
        = (if x = .nan ∨ x.signBit = true then 1 else 0) ∧
      ((x.signBit && x.isZero) = false →
        (signOf sp (f64Nonneg x) ++ rep zeros 48 ++ f64AmountText sp.prec x).count 45
          = (if f64Nonneg x then 0 else 1)) ∧
      (f64Nonneg x = false → ∃ r, signOf sp (f64Nonneg x) ++ rep zeros 48 ++ f64AmountText sp.prec x = 45 :: r ∧
        r.count 45 = 0) := by
  -- the negative zero is the only value with a minus in its amount text, and `-0.0 >= 0` holds
  have hz : f64Nonneg x = false → (x.signBit && x.isZero) = false := by
    cases x with
    | nan => exact fun _ => rfl
    | inf s => exact fun _ => Bool.and_false _
    | fin s m e =>
      rw [f64Nonneg_fin]
      show _ → (s && decide (m = 0)) = false
      cases s <;> cases decide (m = 0) <;> decide
  obtain ⟨lead, zeros, trail, h, -⟩ := display_placement F64.arith f64AmountText sp x sym
  obtain ⟨hc, hr⟩ := core_minus sp (f64Nonneg x) zeros (f64AmountText sp.prec x)
  rw [f64AmountText_minus] at hc hr
  refine ⟨lead, zeros, trail, h, hc, hc.trans ?_, fun hnz => by rw [hc, hnz]; rfl, fun hn => ?_⟩
  · clear h hc hr hz
    cases x with
    | nan => rfl
    | inf s => cases s <;> rfl
    | fin s m e =>
      rw [f64Nonneg_fin, if_congr (or_iff_right F64.noConfusion) rfl rfl]
      show _ + (if s && decide (m = 0) then 1 else 0) = if s = true then 1 else 0
      cases s <;> cases decide (m = 0) <;> rfl
  · obtain ⟨r, h1, h2⟩ := hr hn
    exact ⟨r, h1, by rw [h2, hz hn]; rfl⟩

/-! ### kernel-checked witnesses for the exclusions and the weakened statement -/

/-- WITNESS for `display_single_minus_f64_partial`: for the negative zero `amount >= 0` is TRUE, yet
the text shows a minus (`-0 m`, from the amount text); with the `+` flag both signs appear and the
minus is not leading (`+-0 m`), with a precision likewise (`+-0.00 m`); with the `0` flag the zeros
come before the minus (`00-0 m`) -/
theorem display_negzero_f64 :
    f64Nonneg negZero = true ∧
    displayF64 negZero [109] = [45, 48, 32, 109] ∧
    displayF64With { plus := true } negZero [109] = [43, 45, 48, 32, 109] ∧
    displayF64With { plus := true, prec := some 2 } negZero [109] = [43, 45, 48, 46, 48, 48, 32, 109] ∧
    displayF64With { zero := true, width := some 6 } negZero [109] = [48, 48, 45, 48, 32, 109] := by
  decide +kernel

/-- WITNESS for the exclusion "symbol without a space": `1 sq ft` splits at the LAST space into
`1 sq` and `ft`; the amount part does not parse and the symbol part is not the symbol -/
theorem display_symbol_with_space :
    displayDec ⟨1, 0⟩ [115, 113, 32, 102, 116] = [49, 32, 115, 113, 32, 102, 116] ∧
    splitLastSpace (displayDec ⟨1, 0⟩ [115, 113, 32, 102, 116]) = ([49, 32, 115, 113], [102, 116]) ∧
    Serde.decOfText (splitLastSpace (displayDec ⟨1, 0⟩ [115, 113, 32, 102, 116])).1 = none := by
  decide +kernel

/-- WITNESS for the hypothesis "symbols pairwise different": two units with the symbol `t`; the value
displayed in the second one reads back with the first one -/
theorem display_duplicate_symbol :
    let u1 : UnitDef := { ident := [65], name := [65], symbol := [116], pfx := none, scale := none, doc := none }
    let u2 : UnitDef := { ident := [66], name := [66], symbol := [116], pfx := none, scale := none, doc := none }
    readBack Serde.decOfText [u1, u2] (displayDec ⟨-250, 2⟩ u2.symbol) = some (⟨-250, 2⟩, u1) ∧ u1 ≠ u2 := by
  decide +kernel

/-- WITNESS: the empty symbol (unit-less) has no space to split at — the "symbol part" is the whole text -/
theorem display_unitless_no_split :
    displayDec ⟨-250, 2⟩ [] = [45, 50, 46, 53, 48] ∧
    splitLastSpace (displayDec ⟨-250, 2⟩ []) = ([], [45, 50, 46, 53, 48]) := by
  decide +kernel

/-! ### tests (kernel evaluations on concrete values) -/

/-- `-2.50 °C` (decimal): text, split, read back with coefficient -250 and two digits -/
example : displayDec ⟨-250, 2⟩ [176, 67] = [45, 50, 46, 53, 48, 32, 176, 67] ∧
    splitLastSpace (displayDec ⟨-250, 2⟩ [176, 67]) = ([45, 50, 46, 53, 48], [176, 67]) ∧
    Serde.decOfText (splitLastSpace (displayDec ⟨-250, 2⟩ [176, 67])).1 = some ⟨-250, 2⟩ := by
  decide +kernel

/-- `{:.1}` of `-2.50 °C` and of `-0.25 °C` (ties to even): `-2.5 °C`, `-0.2 °C`; `{:+.0}` of `2.50 °C`: `+2 °C` -/
example : displayDecWith { prec := some 1 } ⟨-250, 2⟩ [176, 67] = [45, 50, 46, 53, 32, 176, 67] ∧
    displayDecWith { prec := some 1 } ⟨-25, 2⟩ [176, 67] = [45, 48, 46, 50, 32, 176, 67] ∧
    displayDecWith { plus := true, prec := some 0 } ⟨250, 2⟩ [176, 67] = [43, 50, 32, 176, 67] := by
  decide +kernel

/-- `-0.1 µm` (binary64, bits BFB999999999999A) -/
example : displayF64 (ofBits 0xBFB999999999999A) [181, 109] = [45, 48, 46, 49, 32, 181, 109] ∧
    parseText (splitLastSpace (displayF64 (ofBits 0xBFB999999999999A) [181, 109])).1
      = some (ofBits 0xBFB999999999999A) ∧
    (splitLastSpace (displayF64 (ofBits 0xBFB999999999999A) [181, 109])).2 = [181, 109] := by
  decide +kernel

/-- `1e21 m`: written positionally, 22 digits -/
example : displayF64 (ofBits 0x444B1AE4D6E2EF50) [109] = 49 :: List.replicate 21 48 ++ [32, 109] ∧
    parseText (splitLastSpace (displayF64 (ofBits 0x444B1AE4D6E2EF50) [109])).1
      = some (ofBits 0x444B1AE4D6E2EF50) := by
  decide +kernel

/-- `-0.0 m`: shown as `-0 m`, read back as the NEGATIVE zero -/
example : displayF64 (ofBits 0x8000000000000000) [109] = [45, 48, 32, 109] ∧
    parseText (splitLastSpace (displayF64 (ofBits 0x8000000000000000) [109])).1
      = some (ofBits 0x8000000000000000) ∧ ofBits 0x8000000000000000 = negZero := by
  decide +kernel

/-- `-inf m` and `inf m` read back; `-NaN m` does not -/
example : displayF64 (.inf true) [109] = [45, 105, 110, 102, 32, 109] ∧
    parseText (splitLastSpace (displayF64 (.inf true) [109])).1 = some (.inf true) ∧
    displayF64 (.inf false) [109] = [105, 110, 102, 32, 109] ∧
    displayF64 .nan [109] = [45, 78, 97, 78, 32, 109] ∧
    parseText (splitLastSpace (displayF64 .nan [109])).1 = none := by
  decide +kernel

/-- `{:.2}` of `-0.1 µm`: `-0.10 µm`; `{:*^+12.1}` of `5.0 µm`: `**+5.0 µm***` -/
example : displayF64With { prec := some 2 } (ofBits 0xBFB999999999999A) [181, 109]
      = [45, 48, 46, 49, 48, 32, 181, 109] ∧
    displayF64With { fill := some 42, align := some .center, plus := true, width := some 12, prec := some 1 }
      (ofBits 0x4014000000000000) [181, 109] = [42, 42, 43, 53, 46, 48, 32, 181, 109, 42, 42, 42] := by
  decide +kernel

/-- display, split, parse, look up on a two-unit list -/
example :
    let m : UnitDef := { ident := [77], name := [77], symbol := [109], pfx := none, scale := none, doc := none }
    let um : UnitDef := { ident := [85], name := [85], symbol := [181, 109], pfx := none, scale := none, doc := none }
    readBack parseText [m, um] (displayF64 (ofBits 0xBFB999999999999A) um.symbol)
      = some (ofBits 0xBFB999999999999A, um) ∧
    readBack Serde.decOfText [m, um] (displayDec ⟨-250, 2⟩ m.symbol) = some (⟨-250, 2⟩, m) := by
  decide +kernel

end Qty.C15
