import QtyModel.Props.OracleSoundBase
import QtyModel.Props.C01
import QtyModel.Props.C03
import QtyModel.Lemmas.Res
import QtyModel.Dec
import QtyModel.F64
/- `OracleSound`, C01 and C03 (see `OracleSoundBase.lean`). -/
namespace Qty.OracleSound

variable {A : Type} (R : Arith A)

/-- **C01** (`Main.lean`, op `conv`:
`Oracle.c01 M (i == j) j u' s1 s2 (R.val a) (R.same y a) (R.val y)`): `r` is what the model's `convert`
returned.  `s2 ≠ 0` is not tested by the driver: for a target unit of scale `0.0` the binary64 model
returns inf/NaN and the oracle fails on it; no generated table has such a unit (positive literals). -/
theorem c01_accepts_model {M : ErrModel} (L : Laws R M) (hsame : ∀ a : A, R.same a a = true)
    (T : QT A Nat) (q : Q A Nat) (j : Nat) (s1 s2 : Rat)
    (hs1 : R.val (T.scale q.unit) = some s1) (hs2 : R.val (T.scale j) = some s2) (hs2ne : s2 ≠ 0)
    (r : Q A Nat) (hr : convert R T q j = .ok r) (w : String) :
    Oracle.c01 M (q.unit == j) j r.unit s1 s2 (R.val q.amount) (R.same r.amount q.amount) (R.val r.amount)
      ≠ .fail w := by
  revert w
  refine NoFail.and (.check _ (decide_eq_true (C01.convert_unit R T q r j hr))) ?_
  by_cases hq : q.unit = j
  · subst hq
    rw [C01.convert_same_unit R T q] at hr
    cases hr
    rw [if_pos (beq_self_eq_true _)]
    exact .check _ (hsame _)
  · rw [if_neg (mt beq_iff_eq.mp hq)]
    split
    · exact .skip _
    next a ha =>
      refine NoFail.ite_not_skip fun hs => ?_
      obtain ⟨r', y, hc, -, hy, hbd⟩ := C01.convert_mag R T L q j s1 s2 a hq hs1 hs2 hs2ne ha hs
      cases hr.symm.trans hc
      rw [hy]
      exact .check _ (decide_eq_true hbd)

/-- **C03, sum and difference** (`Main.lean`, ops `add` / `sub`:
`Oracle.c03addsub M isSub i j u' s1 s2 (R.val a) (R.val b) sameOwn (R.val z)`), `sameOwn` being the
comparison with the amount type's own operator as the driver computes it.  `s1 ≠ 0` is not tested by
the driver, and cannot be dropped, for the reason given at `c01_accepts_model`. -/
theorem c03addsub_accepts_model {M : ErrModel} (L : Laws R M) (hsame : ∀ a : A, R.same a a = true)
    (T : QT A Nat) (isSub : Bool) (a b : Q A Nat) (s1 s2 : Rat)
    (hs1 : R.val (T.scale a.unit) = some s1) (hs2 : R.val (T.scale b.unit) = some s2) (hs1ne : s1 ≠ 0)
    (r : Q A Nat) (hr : (if isSub then hrSub R T a b else hrAdd R T a b) = .ok r) (w : String) :
    Oracle.c03addsub M isSub a.unit b.unit r.unit s1 s2 (R.val a.amount) (R.val b.amount)
      (match (if isSub then R.sub a.amount b.amount else R.add a.amount b.amount) with
        | .ok o => R.same r.amount o
        | .error _ => false)
      (R.val r.amount) ≠ .fail w := by
  revert w
  have hr' := hrAddSub_ite R T isSub a b ▸ hr
  refine NoFail.and (.check _ (decide_eq_true (hrAddSub_unit R T hr'))) ?_
  by_cases hij : a.unit = b.unit
  · rw [if_pos hij]
    rw [hrAddSub_same_unit R T _ hij.symm, Res.map_eq_ok] at hr'
    obtain ⟨o, ho, rfl⟩ := hr'
    rw [show (if isSub then R.sub a.amount b.amount else R.add a.amount b.amount) = .ok o from ho]
    exact .check _ (hsame _)
  · rw [if_neg hij]
    split
    next x y hx hy =>
      refine NoFail.ite_not_skip fun hs => ?_
      rw [Bool.and_eq_true] at hs
      obtain ⟨r', z, hc, -, hz, hbd⟩ :=
        C03.addsub_mag R T L isSub a b s1 s2 x y (Ne.symm hij) hs1 hs2 hs1ne hx hy hs.1 hs.2
      cases hr.symm.trans hc
      rw [hz]
      exact .check _ (decide_eq_true hbd)
    · exact .skip _

/-- **C03, ratio** (`Main.lean`, op `div`:
`Oracle.c03div M i j s1 s2 (R.val a) (R.val b) sameOwn (R.val z)`) -/
theorem c03div_accepts_model {M : ErrModel} (L : Laws R M) (hsame : ∀ a : A, R.same a a = true)
    (T : QT A Nat) (a b : Q A Nat) (s1 s2 : Rat)
    (hs1 : R.val (T.scale a.unit) = some s1) (hs2 : R.val (T.scale b.unit) = some s2) (hs1ne : s1 ≠ 0)
    (z : A) (hr : hrDiv R T a b = .ok z) (w : String) :
    Oracle.c03div M a.unit b.unit s1 s2 (R.val a.amount) (R.val b.amount)
      (match R.div a.amount b.amount with
        | .ok o => R.same z o
        | .error _ => false)
      (R.val z) ≠ .fail w := by
  revert w
  -- no unit check stands in front of this oracle: its `if` has to be made visible first
  change NoFail _
  unfold Oracle.c03div
  by_cases hij : a.unit = b.unit
  · rw [if_pos hij, ← C03.div_same_unit R T a b hij.symm, hr]
    exact .check _ (hsame _)
  · rw [if_neg hij]
    split
    next x y hx hy =>
      refine NoFail.ite_skip fun _ => NoFail.ite_not_skip fun hs => NoFail.ite_skip fun hcb =>
        NoFail.ite_not_skip fun hs2' => ?_
      obtain ⟨c, v, hc, hv, hbd⟩ := C03.div_ratio R T L a b s1 s2 x y (Ne.symm hij) hs1 hs2 hs1ne
        hx hy hs (not_le.mp hcb) hs2'
      cases hr.symm.trans hc
      rw [hv]
      exact .check _ (decide_eq_true hbd)
    · exact .skip _

/-- both amount back-ends: `same` (bit / representation identity) is reflexive — the hypothesis
`hsame` of the statements above -/
theorem dec_same_refl (a : Dec) : Dec.arith.same a a = true := by
  show Dec.same a a = true
  simp [Dec.same]

theorem f64_same_refl (a : F64) : F64.arith.same a a = true := by
  show F64.same a a = true
  simp [F64.same]

end Qty.OracleSound
