import QtyModel.Props.C04
import QtyModel.Lemmas.Basic
import QtyModel.Lemmas.DecLaws
/-
  C04, last sentence — "Consequently multiplying by a value and then dividing by it (or the
  reverse) returns the original magnitude."

  In an exact arithmetic (`M.E = 0`) the bounds vanish and the magnitude is returned exactly
  (`mul_then_div_mag_exact`, `div_then_mul_mag_exact`).  No such arithmetic is exhibited here; the
  rationals with exact operations, `E = Ea = 0` and everything in range are one.
-/
namespace Qty.C04

variable {A U V W : Type} [DecidableEq U] [DecidableEq V] [DecidableEq W] (R : Arith A)

/-! ### the two per-step bounds composed

`z`, `sw1`: amount and unit scale of the intermediate, `z'`, `sw2`: of the final result; `B1`, `B2`:
the bounds of the first and second step.  The first step's error is carried through the exact
second operation, i.e. divided resp. multiplied by `|b·sb|` (`abs_sub_le_chain`). -/

theorem rt_mul_div {a b sa sb z sw1 z' sw2 B1 B2 : Rat} (hb0 : b ≠ 0) (hsb0 : sb ≠ 0)
    (h1 : |z * sw1 - a * b * (sa * sb)| ≤ B1) (h2 : |z' * sw2 - z / b * (sw1 / sb)| ≤ B2) :
    |z' * sw2 - a * sa| ≤ B2 + B1 / |b * sb| := by
  have hk : (b * sb)⁻¹ * (b * sb) = 1 := inv_mul_cancel₀ (mul_ne_zero hb0 hsb0)
  rw [mul_mul_mul_comm, mul_comm (a * sa)] at h1
  rw [div_mul_div_comm, div_eq_inv_mul] at h2
  rw [div_eq_inv_mul, ← abs_inv]
  exact abs_sub_le_chain hk h1 h2

theorem rt_div_mul {a b sa sb z sw1 z' sw2 B1 B2 : Rat} (hb0 : b ≠ 0) (hsb0 : sb ≠ 0)
    (h1 : |z * sw1 - a / b * (sa / sb)| ≤ B1) (h2 : |z' * sw2 - z * b * (sw1 * sb)| ≤ B2) :
    |z' * sw2 - a * sa| ≤ B2 + B1 * |b * sb| := by
  have hk : b * sb * (b * sb)⁻¹ = 1 := mul_inv_cancel₀ (mul_ne_zero hb0 hsb0)
  rw [div_mul_div_comm, div_eq_inv_mul] at h1
  rw [mul_mul_mul_comm, mul_comm (z * sw1)] at h2
  rw [mul_comm B1]
  exact abs_sub_le_chain hk h1 h2

/-- Multiplying by a value and then dividing by it returns the original magnitude, up to the two
propagated rounding bounds.

Tables: `TA` (type of `x` and of the round trip's result), `TB` (type of `y`), `TQ` (type of the
product `x * y`).  `hsafe2` is the range condition of `ddiv_mag` for `p / y`, for EVERY amount `z`
in EVERY unit `w` the product `p` can have according to `dmul_mag` (its magnitude `z * scQ w` is
within `derivedBound` of the exact product), whatever unit the quotient gets. -/
theorem mul_then_div_mag {M : ErrModel} (L : Laws R M)
    (TA : QT A U) (TB : QT A V) (TQ : QT A W)
    (hIQ : TQ.fitIdentity = none) (hIA : TA.fitIdentity = none)
    (hrefQ : TQ.ref ∈ TQ.units) (hrefA : TA.ref ∈ TA.units)
    (x : Q A U) (y : Q A V) (a b sa sb : Rat)
    (ha : R.val x.amount = some a) (hb : R.val y.amount = some b) (hb0 : b ≠ 0)
    (hsa : R.val (TA.scale x.unit) = some sa) (hsb : R.val (TB.scale y.unit) = some sb)
    (hsb0 : sb ≠ 0)
    (scQ : W → Rat) (hscQ : ∀ w ∈ TQ.units, R.val (TQ.scale w) = some (scQ w) ∧ 0 < scQ w)
    (scA : U → Rat) (hscA : ∀ u ∈ TA.units, R.val (TA.scale u) = some (scA u) ∧ 0 < scA u)
    (hsafe1 : ∀ w ∈ TQ.units, Oracle.derivedSafe M (a * b) (sa * sb) (scQ w) = true)
    (hsafe2 : ∀ w ∈ TQ.units, ∀ z : Rat,
      ratAbs (z * scQ w - (a * b) * (sa * sb)) ≤ Oracle.derivedBound M (a * b) (sa * sb) (scQ w) →
      ∀ u ∈ TA.units, Oracle.derivedSafe M (z / b) (scQ w / sb) (scA u) = true) :
    ∃ (p : Q A W) (q : Q A U) (z z' : Rat),
      dmul R TA TB TQ x y = .ok p ∧ ddiv R TQ TB TA p y = .ok q ∧
      p.unit ∈ TQ.units ∧ q.unit ∈ TA.units ∧
      R.val p.amount = some z ∧ R.val q.amount = some z' ∧
      ratAbs (z' * scA q.unit - a * sa) ≤
        Oracle.derivedBound M (z / b) (scQ p.unit / sb) (scA q.unit)
          + Oracle.derivedBound M (a * b) (sa * sb) (scQ p.unit) / ratAbs (b * sb) := by
  obtain ⟨p, z, hp, hpm, hz, hb1⟩ :=
    dmul_mag R L TA TB TQ hIQ hrefQ x y a b sa sb ha hb hsa hsb scQ hscQ hsafe1
  obtain ⟨q, z', hq, hqm, hz', hb2⟩ :=
    ddiv_mag R L TQ TB TA hIA hrefA p y z b (scQ p.unit) sb hz hb hb0 (hscQ p.unit hpm).1 hsb hsb0
      scA hscA (hsafe2 p.unit hpm z hb1)
  simp only [ratAbs_eq_abs] at hb1 hb2 ⊢
  exact ⟨p, q, z, z', hp, hq, hpm, hqm, hz, hz',
    rt_mul_div hb0 hsb0 hb1 hb2⟩

/-- Dividing by a value and then multiplying by it returns the original magnitude, up to the two
propagated rounding bounds.

Tables: `TA` (type of `x` and of the round trip's result), `TB` (type of `y`), `TQ` (type of the
quotient `x / y`).  The hypotheses are the ones of `mul_then_div_mag` with the two operators
exchanged:
* `hsafe1`: the range condition of `ddiv_mag` for `x / y`, whatever unit the quotient gets;
* `hsafe2`: the range condition of `dmul_mag` for `p * y`, for EVERY amount `z` in EVERY unit `w`
  the quotient `p` can have according to `ddiv_mag`, whatever unit the product gets. -/
theorem div_then_mul_mag {M : ErrModel} (L : Laws R M)
    (TA : QT A U) (TB : QT A V) (TQ : QT A W)
    (hIQ : TQ.fitIdentity = none) (hIA : TA.fitIdentity = none)
    (hrefQ : TQ.ref ∈ TQ.units) (hrefA : TA.ref ∈ TA.units)
    (x : Q A U) (y : Q A V) (a b sa sb : Rat)
    (ha : R.val x.amount = some a) (hb : R.val y.amount = some b) (hb0 : b ≠ 0)
    (hsa : R.val (TA.scale x.unit) = some sa) (hsb : R.val (TB.scale y.unit) = some sb)
    (hsb0 : sb ≠ 0)
    (scQ : W → Rat) (hscQ : ∀ w ∈ TQ.units, R.val (TQ.scale w) = some (scQ w) ∧ 0 < scQ w)
    (scA : U → Rat) (hscA : ∀ u ∈ TA.units, R.val (TA.scale u) = some (scA u) ∧ 0 < scA u)
    (hsafe1 : ∀ w ∈ TQ.units, Oracle.derivedSafe M (a / b) (sa / sb) (scQ w) = true)
    (hsafe2 : ∀ w ∈ TQ.units, ∀ z : Rat,
      ratAbs (z * scQ w - (a / b) * (sa / sb)) ≤ Oracle.derivedBound M (a / b) (sa / sb) (scQ w) →
      ∀ u ∈ TA.units, Oracle.derivedSafe M (z * b) (scQ w * sb) (scA u) = true) :
    ∃ (p : Q A W) (q : Q A U) (z z' : Rat),
      ddiv R TA TB TQ x y = .ok p ∧ dmul R TQ TB TA p y = .ok q ∧
      p.unit ∈ TQ.units ∧ q.unit ∈ TA.units ∧
      R.val p.amount = some z ∧ R.val q.amount = some z' ∧
      ratAbs (z' * scA q.unit - a * sa) ≤
        Oracle.derivedBound M (z * b) (scQ p.unit * sb) (scA q.unit)
          + Oracle.derivedBound M (a / b) (sa / sb) (scQ p.unit) * ratAbs (b * sb) := by
  obtain ⟨p, z, hp, hpm, hz, hb1⟩ :=
    ddiv_mag R L TA TB TQ hIQ hrefQ x y a b sa sb ha hb hb0 hsa hsb hsb0 scQ hscQ hsafe1
  obtain ⟨q, z', hq, hqm, hz', hb2⟩ :=
    dmul_mag R L TQ TB TA hIA hrefA p y z b (scQ p.unit) sb hz hb (hscQ p.unit hpm).1 hsb
      scA hscA (hsafe2 p.unit hpm z hb1)
  simp only [ratAbs_eq_abs] at hb1 hb2 ⊢
  exact ⟨p, q, z, z', hp, hq, hpm, hqm, hz, hz',
    rt_div_mul hb0 hsb0 hb1 hb2⟩

theorem derivedBound_exact {M : ErrModel} (hE : ∀ x, M.E x = 0) (pa ps sw : Rat) :
    Oracle.derivedBound M pa ps sw = 0 := by
  simp [Oracle.derivedBound, hE]

/-- `mul_then_div_mag` for an arithmetic that does not round: `(x * y) / y` has exactly the
reference-unit magnitude of `x` -/
theorem mul_then_div_mag_exact {M : ErrModel} (L : Laws R M) (hE : ∀ x, M.E x = 0)
    (TA : QT A U) (TB : QT A V) (TQ : QT A W)
    (hIQ : TQ.fitIdentity = none) (hIA : TA.fitIdentity = none)
    (hrefQ : TQ.ref ∈ TQ.units) (hrefA : TA.ref ∈ TA.units)
    (x : Q A U) (y : Q A V) (a b sa sb : Rat)
    (ha : R.val x.amount = some a) (hb : R.val y.amount = some b) (hb0 : b ≠ 0)
    (hsa : R.val (TA.scale x.unit) = some sa) (hsb : R.val (TB.scale y.unit) = some sb)
    (hsb0 : sb ≠ 0)
    (scQ : W → Rat) (hscQ : ∀ w ∈ TQ.units, R.val (TQ.scale w) = some (scQ w) ∧ 0 < scQ w)
    (scA : U → Rat) (hscA : ∀ u ∈ TA.units, R.val (TA.scale u) = some (scA u) ∧ 0 < scA u)
    (hsafe1 : ∀ w ∈ TQ.units, Oracle.derivedSafe M (a * b) (sa * sb) (scQ w) = true)
    (hsafe2 : ∀ w ∈ TQ.units, ∀ z : Rat,
      ratAbs (z * scQ w - (a * b) * (sa * sb)) ≤ Oracle.derivedBound M (a * b) (sa * sb) (scQ w) →
      ∀ u ∈ TA.units, Oracle.derivedSafe M (z / b) (scQ w / sb) (scA u) = true) :
    ∃ (p : Q A W) (q : Q A U) (z' : Rat),
      dmul R TA TB TQ x y = .ok p ∧ ddiv R TQ TB TA p y = .ok q ∧ q.unit ∈ TA.units ∧
      R.val q.amount = some z' ∧ z' * scA q.unit = a * sa := by
  obtain ⟨p, q, z, z', hp, hq, -, hqm, -, hz', hbound⟩ :=
    mul_then_div_mag R L TA TB TQ hIQ hIA hrefQ hrefA x y a b sa sb ha hb hb0 hsa hsb hsb0
      scQ hscQ scA hscA hsafe1 hsafe2
  refine ⟨p, q, z', hp, hq, hqm, hz', ?_⟩
  rw [derivedBound_exact hE, derivedBound_exact hE, ratAbs_eq_abs, zero_div, add_zero] at hbound
  exact sub_eq_zero.mp (abs_nonpos_iff.mp hbound)

/-- `div_then_mul_mag` for an arithmetic that does not round: `(x / y) * y` has exactly the
reference-unit magnitude of `x` -/
theorem div_then_mul_mag_exact {M : ErrModel} (L : Laws R M) (hE : ∀ x, M.E x = 0)
    (TA : QT A U) (TB : QT A V) (TQ : QT A W)
    (hIQ : TQ.fitIdentity = none) (hIA : TA.fitIdentity = none)
    (hrefQ : TQ.ref ∈ TQ.units) (hrefA : TA.ref ∈ TA.units)
    (x : Q A U) (y : Q A V) (a b sa sb : Rat)
    (ha : R.val x.amount = some a) (hb : R.val y.amount = some b) (hb0 : b ≠ 0)
    (hsa : R.val (TA.scale x.unit) = some sa) (hsb : R.val (TB.scale y.unit) = some sb)
    (hsb0 : sb ≠ 0)
    (scQ : W → Rat) (hscQ : ∀ w ∈ TQ.units, R.val (TQ.scale w) = some (scQ w) ∧ 0 < scQ w)
    (scA : U → Rat) (hscA : ∀ u ∈ TA.units, R.val (TA.scale u) = some (scA u) ∧ 0 < scA u)
    (hsafe1 : ∀ w ∈ TQ.units, Oracle.derivedSafe M (a / b) (sa / sb) (scQ w) = true)
    (hsafe2 : ∀ w ∈ TQ.units, ∀ z : Rat,
      ratAbs (z * scQ w - (a / b) * (sa / sb)) ≤ Oracle.derivedBound M (a / b) (sa / sb) (scQ w) →
      ∀ u ∈ TA.units, Oracle.derivedSafe M (z * b) (scQ w * sb) (scA u) = true) :
    ∃ (p : Q A W) (q : Q A U) (z' : Rat),
      ddiv R TA TB TQ x y = .ok p ∧ dmul R TQ TB TA p y = .ok q ∧ q.unit ∈ TA.units ∧
      R.val q.amount = some z' ∧ z' * scA q.unit = a * sa := by
  obtain ⟨p, q, z, z', hp, hq, -, hqm, -, hz', hbound⟩ :=
    div_then_mul_mag R L TA TB TQ hIQ hIA hrefQ hrefA x y a b sa sb ha hb hb0 hsa hsb hsb0
      scQ hscQ scA hscA hsafe1 hsafe2
  refine ⟨p, q, z', hp, hq, hqm, hz', ?_⟩
  rw [derivedBound_exact hE, derivedBound_exact hE, ratAbs_eq_abs, zero_mul, add_zero] at hbound
  exact sub_eq_zero.mp (abs_nonpos_iff.mp hbound)

/-! ### the second-step range condition as a finite check

`hsafe2` quantifies over every intermediate amount `z`.  `derivedSafe` is monotone in the
magnitude of the amount product, so it is enough to evaluate it once per pair of units, at the
largest magnitude the intermediate can have. -/

theorem derivedSafe_mono {M : ErrModel} (Wf : M.WF) {pa pa' ps sw : Rat} (hsw : 0 < sw)
    (hle : ratAbs pa ≤ ratAbs pa') (h : Oracle.derivedSafe M pa' ps sw = true) :
    Oracle.derivedSafe M pa ps sw = true := by
  rw [derivedSafe_iff] at h ⊢
  obtain ⟨hP, hS, hX, hQ⟩ := h
  rw [ratAbs_eq_abs, ratAbs_eq_abs] at hle
  have hP0 := Wf.abs_add_E_nonneg pa
  have hS0 := Wf.abs_add_E_nonneg ps
  have hPP : |pa| + M.E pa ≤ |pa'| + M.E pa' := add_le_add hle (Wf.E_le hle)
  have hX0 := fitMax_nonneg Wf pa ps
  have hXX : fitMax M pa ps ≤ fitMax M pa' ps :=
    Wf.add_E_le (mul_nonneg hP0 hS0) (mul_le_mul_of_nonneg_right hPP hS0)
  have hQ0 := div_nonneg hX0 hsw.le
  exact ⟨Wf.safe_of_le hP0 hPP hP, hS, Wf.safe_of_le hX0 hXX hX,
    Wf.safe_of_le (add_nonneg hQ0 (Wf.E_nonneg _))
      (Wf.add_E_le hQ0 (div_le_div_of_nonneg_right hXX hsw.le)) hQ⟩

/-- an amount `z` whose magnitude `z * s` is within `B` of `c` is at most `(|c| + B) / s` -/
theorem intermediate_le {z s c B : Rat} (hs : 0 < s) (h : ratAbs (z * s - c) ≤ B) :
    ratAbs z ≤ (ratAbs c + B) / s ∧ 0 ≤ ratAbs c + B := by
  simp only [ratAbs_eq_abs] at h ⊢
  have h1 := abs_le_of_abs_sub_le h
  rw [abs_mul, abs_of_pos hs] at h1
  exact ⟨(le_div_iff₀ hs).mpr h1, (mul_nonneg (abs_nonneg z) hs.le).trans h1⟩

/-- `mul_then_div_mag` with the range condition of the division evaluated once per pair of
units, at the largest intermediate amount `(|a·b·sa·sb| + derivedBound) / scQ w` -/
theorem mul_then_div_mag_of_worst {M : ErrModel} (L : Laws R M)
    (TA : QT A U) (TB : QT A V) (TQ : QT A W)
    (hIQ : TQ.fitIdentity = none) (hIA : TA.fitIdentity = none)
    (hrefQ : TQ.ref ∈ TQ.units) (hrefA : TA.ref ∈ TA.units)
    (x : Q A U) (y : Q A V) (a b sa sb : Rat)
    (ha : R.val x.amount = some a) (hb : R.val y.amount = some b) (hb0 : b ≠ 0)
    (hsa : R.val (TA.scale x.unit) = some sa) (hsb : R.val (TB.scale y.unit) = some sb)
    (hsb0 : sb ≠ 0)
    (scQ : W → Rat) (hscQ : ∀ w ∈ TQ.units, R.val (TQ.scale w) = some (scQ w) ∧ 0 < scQ w)
    (scA : U → Rat) (hscA : ∀ u ∈ TA.units, R.val (TA.scale u) = some (scA u) ∧ 0 < scA u)
    (hsafe1 : ∀ w ∈ TQ.units, Oracle.derivedSafe M (a * b) (sa * sb) (scQ w) = true)
    (hsafe2 : ∀ w ∈ TQ.units, ∀ u ∈ TA.units,
      Oracle.derivedSafe M
        ((ratAbs ((a * b) * (sa * sb)) + Oracle.derivedBound M (a * b) (sa * sb) (scQ w))
          / scQ w / b)
        (scQ w / sb) (scA u) = true) :
    ∃ (p : Q A W) (q : Q A U) (z z' : Rat),
      dmul R TA TB TQ x y = .ok p ∧ ddiv R TQ TB TA p y = .ok q ∧
      p.unit ∈ TQ.units ∧ q.unit ∈ TA.units ∧
      R.val p.amount = some z ∧ R.val q.amount = some z' ∧
      ratAbs (z' * scA q.unit - a * sa) ≤
        Oracle.derivedBound M (z / b) (scQ p.unit / sb) (scA q.unit)
          + Oracle.derivedBound M (a * b) (sa * sb) (scQ p.unit) / ratAbs (b * sb) := by
  apply mul_then_div_mag R L TA TB TQ hIQ hIA hrefQ hrefA x y a b sa sb ha hb hb0 hsa hsb hsb0
    scQ hscQ scA hscA hsafe1
  intro w hw z hz u hu
  obtain ⟨hle, h0⟩ := intermediate_le (hscQ w hw).2 hz
  refine derivedSafe_mono L.wf (hscA u hu).2 ?_ (hsafe2 w hw u hu)
  simp only [ratAbs_eq_abs] at *
  rw [abs_div, abs_div _ b, abs_div, abs_of_nonneg h0, abs_of_pos (hscQ w hw).2]
  exact div_le_div_of_nonneg_right hle (abs_nonneg b)

/-- `div_then_mul_mag` with the range condition of the multiplication evaluated once per pair of
units, at the largest intermediate amount `(|a/b·sa/sb| + derivedBound) / scQ w` -/
theorem div_then_mul_mag_of_worst {M : ErrModel} (L : Laws R M)
    (TA : QT A U) (TB : QT A V) (TQ : QT A W)
    (hIQ : TQ.fitIdentity = none) (hIA : TA.fitIdentity = none)
    (hrefQ : TQ.ref ∈ TQ.units) (hrefA : TA.ref ∈ TA.units)
    (x : Q A U) (y : Q A V) (a b sa sb : Rat)
    (ha : R.val x.amount = some a) (hb : R.val y.amount = some b) (hb0 : b ≠ 0)
    (hsa : R.val (TA.scale x.unit) = some sa) (hsb : R.val (TB.scale y.unit) = some sb)
    (hsb0 : sb ≠ 0)
    (scQ : W → Rat) (hscQ : ∀ w ∈ TQ.units, R.val (TQ.scale w) = some (scQ w) ∧ 0 < scQ w)
    (scA : U → Rat) (hscA : ∀ u ∈ TA.units, R.val (TA.scale u) = some (scA u) ∧ 0 < scA u)
    (hsafe1 : ∀ w ∈ TQ.units, Oracle.derivedSafe M (a / b) (sa / sb) (scQ w) = true)
    (hsafe2 : ∀ w ∈ TQ.units, ∀ u ∈ TA.units,
      Oracle.derivedSafe M
        ((ratAbs ((a / b) * (sa / sb)) + Oracle.derivedBound M (a / b) (sa / sb) (scQ w))
          / scQ w * b)
        (scQ w * sb) (scA u) = true) :
    ∃ (p : Q A W) (q : Q A U) (z z' : Rat),
      ddiv R TA TB TQ x y = .ok p ∧ dmul R TQ TB TA p y = .ok q ∧
      p.unit ∈ TQ.units ∧ q.unit ∈ TA.units ∧
      R.val p.amount = some z ∧ R.val q.amount = some z' ∧
      ratAbs (z' * scA q.unit - a * sa) ≤
        Oracle.derivedBound M (z * b) (scQ p.unit * sb) (scA q.unit)
          + Oracle.derivedBound M (a / b) (sa / sb) (scQ p.unit) * ratAbs (b * sb) := by
  apply div_then_mul_mag R L TA TB TQ hIQ hIA hrefQ hrefA x y a b sa sb ha hb hb0 hsa hsb hsb0
    scQ hscQ scA hscA hsafe1
  intro w hw z hz u hu
  obtain ⟨hle, h0⟩ := intermediate_le (hscQ w hw).2 hz
  refine derivedSafe_mono L.wf (hscA u hu).2 ?_ (hsafe2 w hw u hu)
  simp only [ratAbs_eq_abs] at *
  rw [abs_mul, abs_mul _ b, abs_div, abs_of_nonneg h0, abs_of_pos (hscQ w hw).2]
  exact mul_le_mul_of_nonneg_right hle (abs_nonneg b)

namespace Example

/-- lengths: unit `0` = mm (scale 0.001), unit `1` = m (scale 1, reference unit) -/
def len : QT Dec Nat :=
  { units := [0, 1], scale := fun u => if u = 0 then ⟨1, 3⟩ else ⟨1, 0⟩,
    hasPrefix := fun _ => false, ref := 1 }

/-- areas: unit `0` = mm² (scale 0.000001), unit `1` = m² (scale 1, reference unit) -/
def area : QT Dec Nat :=
  { units := [0, 1], scale := fun u => if u = 0 then ⟨1, 6⟩ else ⟨1, 0⟩,
    hasPrefix := fun _ => false, ref := 1 }

def scLen (u : Nat) : Rat := if u = 0 then 1 / 1000 else 1
def scArea (u : Nat) : Rat := if u = 0 then 1 / 1000000 else 1

end Example

open Example in
/-- the operators return the original value: `3 m · 2 m = 6 m²`, `6 m² / 2 m = 3 m`,
`3 m · 2 mm = 6000 mm²` (no unit of scale 0.001 in `area`: `_fit`), `6000 mm² / 2 mm = 3000 mm`
(the same magnitude `3000 · 0.001 = 3 · 1`, in another unit: the statement is about magnitudes) -/
example :
    dmul Dec.arith len len area ⟨⟨3, 0⟩, 1⟩ ⟨⟨2, 0⟩, 1⟩ = .ok ⟨⟨6, 0⟩, 1⟩ ∧
    ddiv Dec.arith area len len ⟨⟨6, 0⟩, 1⟩ ⟨⟨2, 0⟩, 1⟩ = .ok ⟨⟨3, 0⟩, 1⟩ ∧
    dmul Dec.arith len len area ⟨⟨3, 0⟩, 1⟩ ⟨⟨2, 0⟩, 0⟩ = .ok ⟨⟨6000, 0⟩, 0⟩ ∧
    ddiv Dec.arith area len len ⟨⟨6000, 0⟩, 0⟩ ⟨⟨2, 0⟩, 0⟩ = .ok ⟨⟨3000, 0⟩, 0⟩ := by
  decide +kernel

open Example in
/-- the range conditions for the numbers involved (first step: product `6` with scale product
`1`; second step: quotient `6 / 2` with scale quotient `1 / 1`), for both result units, and the
composed bound for the result actually returned (`6 m²`, then `3 m`): below `10⁻¹⁷` -/
example :
    Oracle.derivedSafe ErrModel.dec (3 * 2) (1 * 1) (scArea 0) = true ∧
    Oracle.derivedSafe ErrModel.dec (3 * 2) (1 * 1) (scArea 1) = true ∧
    Oracle.derivedSafe ErrModel.dec (6 / 2) (1 / 1) (scLen 0) = true ∧
    Oracle.derivedSafe ErrModel.dec (6 / 2) (1 / 1) (scLen 1) = true ∧
    Oracle.derivedBound ErrModel.dec (6 / 2) (scArea 1 / 1) (scLen 1)
      + Oracle.derivedBound ErrModel.dec (3 * 2) (1 * 1) (scArea 1) / ratAbs (2 * 1)
      ≤ 1 / pow10 17 := by
  decide +kernel

open Example in
/-- ALL hypotheses of `mul_then_div_mag` hold for `(3 m · 2 m) / 2 m` in the decimal back-end
(through `mul_then_div_mag_of_worst`, whose finite range condition the kernel evaluates), so its
conclusion does: the result has the magnitude `3 · 1` of `x` up to the composed bound. -/
example :
    ∃ (p q : Q Dec Nat) (z z' : Rat),
      dmul Dec.arith len len area ⟨⟨3, 0⟩, 1⟩ ⟨⟨2, 0⟩, 1⟩ = .ok p ∧
      ddiv Dec.arith area len len p ⟨⟨2, 0⟩, 1⟩ = .ok q ∧
      p.unit ∈ area.units ∧ q.unit ∈ len.units ∧
      Dec.arith.val p.amount = some z ∧ Dec.arith.val q.amount = some z' ∧
      ratAbs (z' * scLen q.unit - 3 * 1) ≤
        Oracle.derivedBound ErrModel.dec (z / 2) (scArea p.unit / 1) (scLen q.unit)
          + Oracle.derivedBound ErrModel.dec (3 * 2) (1 * 1) (scArea p.unit) / ratAbs (2 * 1) :=
  mul_then_div_mag_of_worst Dec.arith Dec.laws len len area rfl rfl
    (by decide) (by decide) ⟨⟨3, 0⟩, 1⟩ ⟨⟨2, 0⟩, 1⟩ 3 2 1 1
    (by decide +kernel) (by decide +kernel) (by decide +kernel)
    (by decide +kernel) (by decide +kernel) (by decide +kernel)
    scArea (by decide +kernel) scLen (by decide +kernel)
    (by decide +kernel) (by decide +kernel)

open Example in
/-- the same for the reverse round trip `(6 m² / 2 m) · 2 m`, through
`div_then_mul_mag_of_worst` (here `TA = area`, `TQ = len`) -/
example :
    ∃ (p q : Q Dec Nat) (z z' : Rat),
      ddiv Dec.arith area len len ⟨⟨6, 0⟩, 1⟩ ⟨⟨2, 0⟩, 1⟩ = .ok p ∧
      dmul Dec.arith len len area p ⟨⟨2, 0⟩, 1⟩ = .ok q ∧
      p.unit ∈ len.units ∧ q.unit ∈ area.units ∧
      Dec.arith.val p.amount = some z ∧ Dec.arith.val q.amount = some z' ∧
      ratAbs (z' * scArea q.unit - 6 * 1) ≤
        Oracle.derivedBound ErrModel.dec (z * 2) (scLen p.unit * 1) (scArea q.unit)
          + Oracle.derivedBound ErrModel.dec (6 / 2) (1 / 1) (scLen p.unit) * ratAbs (2 * 1) :=
  div_then_mul_mag_of_worst Dec.arith Dec.laws area len len rfl rfl
    (by decide) (by decide) ⟨⟨6, 0⟩, 1⟩ ⟨⟨2, 0⟩, 1⟩ 6 2 1 1
    (by decide +kernel) (by decide +kernel) (by decide +kernel)
    (by decide +kernel) (by decide +kernel) (by decide +kernel)
    scLen (by decide +kernel) scArea (by decide +kernel)
    (by decide +kernel) (by decide +kernel)

end Qty.C04
