import QtyModel.Ops
import QtyModel.Generated.Algos
/- Tie between code and model: the definitions re-emitted from the Rust source (`Generated/Algos.lean`) ARE
   the model's, for which trait method `+` and `-` of a quantity type WITH a reference unit forward to. -/
namespace Qty.AlgoTie
open Qty.Gen.Algos

variable {A U : Type} [DecidableEq U]
variable (R : Arith A) (T : QT A U)

theorem withRef_add (a b : Q A U) : Kind.withRef.add R T a b = hrAdd R T a b := rfl
theorem withRef_sub (a b : Q A U) : Kind.withRef.sub R T a b = hrSub R T a b := rfl

end Qty.AlgoTie
