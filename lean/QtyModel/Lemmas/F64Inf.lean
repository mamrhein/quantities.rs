import QtyModel.Lemmas.F64Laws
/-
  The software binary64 model on operands that may be infinite or NaN: multiplying by a datum of
  exact value 1 is invisible to `partial_cmp` for every non-NaN binary64 value (finite or
  infinite); the NaN cases of `*`, `/`, `partial_cmp`.
-/
namespace Qty
namespace F64

theorem nan_mul (x : F64) : mul .nan x = .nan := by cases x <;> rfl

theorem pcmp_nan_right (x : F64) : pcmp x .nan = none := by cases x <;> rfl

theorem div_zero_zero (s t : Bool) (e f : ℤ) : div (.fin s 0 e) (.fin t 0 f) = .nan := by
  simp [div]

theorem val_one_form {c : F64} (hc : val c = some 1) :
    ∃ m e, c = .fin false m e ∧ m ≠ 0 := by
  obtain ⟨s, m, e, rfl, -, -, -, h⟩ := val_some hc
  have hm : m ≠ 0 := fun h0 => by
    rw [tr_eq_zero.mpr h0] at h; exact one_ne_zero h
  obtain rfl : false = s := by
    rw [← decide_tr_neg s m e hm, ← h]; exact (decide_eq_false (by norm_num)).symm
  exact ⟨m, e, rfl, hm⟩

/-- `1 · (±inf) = ±inf`, whatever representation the `1` has -/
theorem one_mul_inf {c : F64} (hc : val c = some 1) (t : Bool) : mul c (.inf t) = .inf t := by
  obtain ⟨m, e, rfl, hm⟩ := val_one_form hc
  simp [mul, hm]

/-- for every non-NaN `x`, infinite ones included -/
theorem one_mul_pcmp_left {c x : F64} (hc : val c = some 1) (hx : x ≠ .nan)
    (hw : wf x = true) (z : F64) : pcmp (mul c x) z = pcmp x z := by
  cases x with
  | nan => exact absurd rfl hx
  | inf t => rw [one_mul_inf hc]
  | fin t n f =>
    obtain ⟨h1, h2, h3⟩ := (wf_fin_iff t n f).mp hw
    have hv := val_fin t n f h1 h2 h3
    exact pcmp_congr_left (val_one_mul hc hv) hv z

theorem one_mul_pcmp_right {c x : F64} (hc : val c = some 1) (hx : x ≠ .nan)
    (hw : wf x = true) (z : F64) : pcmp z (mul c x) = pcmp z x := by
  rw [pcmp_flip (mul c x) z, pcmp_flip x z, one_mul_pcmp_left hc hx hw]

end F64
end Qty
