import QtyModel.F64Text
import QtyModel.Lemmas.Basic
/-
  Decimal digit strings and the texts of decimal grid points.

  `Plain t N nf` says that `t` is the positional text of `N · 10^-nf`; `F64.fixedText N p` is such a
  text (`fixedText_plain`), and so is everything `Display for Decimal` prints (`decAbsText_plain`).  The
  readers `parseDecText` and `Serde.decOfText` are one piece of code (`scanWith`: `parseDecText_eq`,
  `C17.decOfText_eq`), which reads an optional minus and a plain text back as the sign, `N` and
  `nf` (`Plain.scan`).
-/
namespace Qty.Digits
open Qty.Fmt Qty.F64

/-- value of a digit string -/
def num (ds : Text) : Nat := ds.foldl (fun acc c => acc * 10 + (c - 48)) 0

theorem foldl_start (xs : Text) (a : Nat) :
    xs.foldl (fun acc c => acc * 10 + (c - 48)) a = a * 10 ^ xs.length + num xs := by
  induction xs generalizing a with
  | nil => simp [num]
  | cons x xs ih =>
    simp only [List.foldl_cons, List.length_cons, num]
    rw [ih, ih (0 * 10 + (x - 48))]
    ring

theorem num_append (xs ys : Text) : num (xs ++ ys) = num xs * 10 ^ ys.length + num ys := by
  unfold num
  rw [List.foldl_append, foldl_start]
  rfl

theorem num_nil : num [] = 0 := rfl

theorem num_single (c : Nat) : num [c] = c - 48 := by simp [num]

theorem num_cons (x : Nat) (xs : Text) : num (x :: xs) = (x - 48) * 10 ^ xs.length + num xs := by
  rw [num, List.foldl_cons, foldl_start, Nat.zero_mul, Nat.zero_add]

theorem num_lt (ds : Text) (h : ds.all Case.isDigit = true) : num ds < 10 ^ ds.length := by
  induction ds with
  | nil => simp [num]
  | cons x xs ih =>
    simp only [List.all_cons, Bool.and_eq_true] at h
    have hx : x - 48 ≤ 9 := by
      have := h.1; simp [Case.isDigit] at this; omega
    have := Nat.mul_le_mul_right (10 ^ xs.length) hx
    have := ih h.2
    rw [num_cons, List.length_cons, pow_succ]
    omega

theorem num_rep_zero (k : Nat) : num (rep k 48) = 0 := by
  induction k with
  | zero => rfl
  | succ k ih =>
    have : rep (k + 1) 48 = rep k 48 ++ [48] := by
      simp [rep, List.replicate_succ']
    rw [this, num_append, ih]; simp [num]

theorem all_rep_zero (k : Nat) : (rep k 48).all Case.isDigit = true := by
  simp [rep, List.all_replicate, Case.isDigit]

theorem all_of_sublist {l ds : Text} (h : l.Sublist ds) (hd : ds.all Case.isDigit = true) :
    l.all Case.isDigit = true := by
  rw [List.all_eq_true] at hd ⊢
  exact fun c hc => hd c (h.subset hc)

theorem natDigitsAux_acc (fuel : Nat) : ∀ (n : Nat) (acc : Text),
    natDigitsAux fuel n acc = natDigitsAux fuel n [] ++ acc := by
  induction fuel with
  | zero => intro n acc; simp [natDigitsAux]
  | succ fuel ih =>
    intro n acc
    unfold natDigitsAux
    split
    · simp
    · rw [ih _ (_ :: acc), ih _ [_]]; simp

theorem natDigitsAux_succ (fuel n : Nat) (h : n ≠ 0) :
    natDigitsAux (fuel + 1) n [] = natDigitsAux fuel (n / 10) [] ++ [48 + n % 10] := by
  rw [natDigitsAux, if_neg h, natDigitsAux_acc]

theorem natDigitsAux_zero (fuel : Nat) : natDigitsAux fuel 0 [] = [] := by
  cases fuel <;> simp [natDigitsAux]

/-- the character the loop emits for the last digit of `n` -/
theorem isDigit_digit (n : Nat) : Case.isDigit (48 + n % 10) = true := by
  have := Nat.mod_lt n (show 0 < 10 by decide)
  simp only [Case.isDigit, Bool.and_eq_true, decide_eq_true_eq]
  omega

/-- with enough fuel the loop returns the digits of `n` (none for `n = 0`) -/
theorem natDigitsAux_spec (fuel : Nat) : ∀ n, n ≤ fuel →
    num (natDigitsAux fuel n []) = n ∧ (natDigitsAux fuel n []).all Case.isDigit = true ∧
    (natDigitsAux fuel n []).head? ≠ some 48 ∧ (n ≠ 0 → natDigitsAux fuel n [] ≠ []) ∧
    ∀ k, n < 10 ^ k → (natDigitsAux fuel n []).length ≤ k := by
  induction fuel with
  | zero =>
    intro n h
    obtain rfl : n = 0 := Nat.le_zero.mp h
    exact ⟨rfl, rfl, nofun, fun h => absurd rfl h, fun k _ => Nat.zero_le k⟩
  | succ fuel ih =>
    intro n h
    by_cases h0 : n = 0
    · subst h0; rw [natDigitsAux_zero]
      exact ⟨rfl, rfl, nofun, fun h => absurd rfl h, fun k _ => Nat.zero_le k⟩
    · obtain ⟨i1, i2, i3, i4, i5⟩ := ih (n / 10) (by omega)
      rw [natDigitsAux_succ _ _ h0]
      refine ⟨?_, ?_, ?_, fun _ => List.append_ne_nil_of_right_ne_nil _ (List.cons_ne_nil _ _),
        fun k hk => ?_⟩
      · rw [num_append, i1, num_single, List.length_singleton, Nat.pow_one, Nat.add_sub_cancel_left]
        exact Nat.div_add_mod' n 10
      · rw [List.all_append, i2, List.all_cons, isDigit_digit]; rfl
      · by_cases hq : n / 10 = 0
        · rw [hq, natDigitsAux_zero, List.nil_append, List.head?_cons, Ne, Option.some_inj]
          omega
        · rw [List.head?_append_of_ne_nil _ (i4 hq)]; exact i3
      · -- one digit more than `n / 10`, which is below `10^(k-1)`
        cases k with
        | zero => rw [Nat.pow_zero] at hk; omega
        | succ k =>
          rw [List.length_append, List.length_singleton]
          exact Nat.succ_le_succ (i5 k (by rw [Nat.pow_succ] at hk; omega))

/-- the digits of `n`: a non-empty digit string that denotes `n`, without a leading zero unless
`n = 0`, of at most `k ≥ 1` characters if `n < 10^k` -/
theorem natDigits_spec (n : Nat) :
    num (natDigits n) = n ∧ (natDigits n).all Case.isDigit = true ∧ natDigits n ≠ [] ∧
    (n ≠ 0 → (natDigits n).head? ≠ some 48) ∧
    ∀ k, 0 < k → n < 10 ^ k → (natDigits n).length ≤ k := by
  unfold natDigits
  split
  · next h => subst h; exact ⟨rfl, rfl, by simp, by simp, fun k hk _ => hk⟩
  · next h =>
    obtain ⟨h1, h2, h3, h4, h5⟩ := natDigitsAux_spec (n + 1) n (by omega)
    exact ⟨h1, h2, h4 h, fun _ => h3, fun k _ => h5 k⟩

theorem natDigits_num (n : Nat) : num (natDigits n) = n := (natDigits_spec n).1
theorem natDigits_all (n : Nat) : (natDigits n).all Case.isDigit = true := (natDigits_spec n).2.1
theorem natDigits_ne_nil (n : Nat) : natDigits n ≠ [] := (natDigits_spec n).2.2.1
theorem natDigits_head (n : Nat) (h : n ≠ 0) : (natDigits n).head? ≠ some 48 :=
  (natDigits_spec n).2.2.2.1 h
theorem natDigits_len (n k : Nat) (hk : 0 < k) (h : n < 10 ^ k) : (natDigits n).length ≤ k :=
  (natDigits_spec n).2.2.2.2 k hk h

theorem natDigits_length_pos (n : Nat) : 0 < (natDigits n).length :=
  List.length_pos_iff.mpr (natDigits_ne_nil n)

theorem natDigits_lt (n : Nat) : n < 10 ^ (natDigits n).length := by
  have := num_lt _ (natDigits_all n)
  rwa [natDigits_num] at this

theorem natDigits_ge (n : Nat) (h : 2 ≤ (natDigits n).length) :
    10 ^ ((natDigits n).length - 1) ≤ n := by
  by_contra hlt
  have := natDigits_len n ((natDigits n).length - 1) (by omega) (not_le.mp hlt)
  omega

theorem zeroPad_num (w : Nat) (t : Text) : num (zeroPadLeft w t) = num t := by
  unfold zeroPadLeft
  rw [num_append, num_rep_zero]; simp

theorem zeroPad_all (w : Nat) (t : Text) (h : t.all Case.isDigit = true) :
    (zeroPadLeft w t).all Case.isDigit = true := by
  unfold zeroPadLeft
  rw [List.all_append, all_rep_zero, h]; rfl

theorem zeroPad_len (w : Nat) (t : Text) (h : t.length ≤ w) : (zeroPadLeft w t).length = w := by
  unfold zeroPadLeft
  simp [rep]; omega

theorem digit_ne_minus {c : Nat} (h : Case.isDigit c = true) : c ≠ 45 := by
  simp [Case.isDigit] at h; omega

theorem all_ne_dot {ip : Text} (h : ip.all Case.isDigit = true) : ∀ c ∈ ip, (c != 46) = true := by
  intro c hc
  have := List.all_eq_true.mp h c hc
  simp [Case.isDigit] at this ⊢; omega

theorem digit_count_dot {l : Text} (h : l.all Case.isDigit = true) : l.count 46 = 0 :=
  List.count_eq_zero.mpr fun hm => by simpa using all_ne_dot h 46 hm

def stripSign (t : Text) : Bool × Text :=
  match t with
  | 45 :: r => (true, r)
  | _ => (false, t)

/-- a scan stops where the next text begins -/
theorem takeWhile_dropWhile_append {α : Type} {p : α → Bool} {l₁ l₂ : List α}
    (h₁ : ∀ x ∈ l₁, p x = true) (h₂ : ∀ x ∈ l₂.head?, p x = false) :
    (l₁ ++ l₂).takeWhile p = l₁ ∧ (l₁ ++ l₂).dropWhile p = l₂ := by
  rw [List.takeWhile_append_of_pos h₁, List.dropWhile_append_of_pos h₁]
  cases l₂ with
  | nil => simp
  | cons c r => simp [h₂ c rfl]

/-- the code `parseDecText` and `Serde.decOfText` share: `f` is handed the sign, the number all the
digits denote and the number of fractional digits -/
def scanWith {α : Type} (f : Bool → Nat → Nat → α) (t : Text) : Option α :=
  let (neg, t) := stripSign t
  let ip := t.takeWhile (· != 46)
  let rest := t.dropWhile (· != 46)
  let fp := match rest with
    | 46 :: r => r
    | _ => []
  if ip.isEmpty || !(ip.all Case.isDigit) || !(fp.all Case.isDigit) || (rest.length = 1) then none
  else some (f neg (num (ip ++ fp)) fp.length)

theorem parseDecText_eq (t : Text) :
    parseDecText t = scanWith (fun neg N p =>
      let v : ℚ := ((N : ℕ) : ℤ) / pow10 p
      (if neg then -v else v, p)) t := rfl

def signText (s : Bool) : Text := if s then [45] else []

theorem signText_cases (s : Bool) : signText s = [] ∨ signText s = [45] := by
  cases s
  · exact Or.inl rfl
  · exact Or.inr rfl

/-- `ip[.fp]`: the point is written iff there are fractional digits -/
def pointText (ip fp : Text) : Text := ip ++ (if fp = [] then [] else 46 :: fp)

theorem pointText_nil (ip : Text) : pointText ip [] = ip := by
  rw [pointText, if_pos rfl, List.append_nil]

theorem pointText_of_ne (ip : Text) {fp : Text} (h : fp ≠ []) : pointText ip fp = ip ++ 46 :: fp := by
  rw [pointText, if_neg h]

/-- `t` is the plain decimal text of `N · 10^-nf`: a non-empty digit string, followed — iff
`nf ≠ 0` — by `.` and exactly `nf` digits, all the digits together denoting `N` -/
def Plain (t : Text) (N nf : Nat) : Prop :=
  ∃ ip fp, ip ≠ [] ∧ ip.all Case.isDigit = true ∧ fp.all Case.isDigit = true ∧ fp.length = nf ∧
    num (ip ++ fp) = N ∧ t = pointText ip fp

theorem Plain.head {t : Text} {N nf : Nat} (h : Plain t N nf) :
    ∃ c r, t = c :: r ∧ Case.isDigit c = true := by
  obtain ⟨ip, fp, hne, hi, -, -, -, rfl⟩ := h
  cases ip with
  | nil => exact absurd rfl hne
  | cons c r =>
    simp only [List.all_cons, Bool.and_eq_true] at hi
    exact ⟨c, _, rfl, hi.1⟩

theorem Plain.chars {t : Text} {N nf : Nat} (h : Plain t N nf) :
    ∀ c ∈ t, Case.isDigit c = true ∨ c = 46 := by
  obtain ⟨ip, fp, -, hi, hf, -, -, rfl⟩ := h
  intro c hc
  rcases List.mem_append.mp hc with hc | hc
  · exact Or.inl (List.all_eq_true.mp hi c hc)
  · split at hc
    · cases hc
    · rcases List.mem_cons.mp hc with hc | hc
      · exact Or.inr hc
      · exact Or.inl (List.all_eq_true.mp hf c hc)

theorem Plain.count_minus {t : Text} {N nf : Nat} (h : Plain t N nf) : t.count 45 = 0 := by
  rw [List.count_eq_zero]
  intro hm
  rcases h.chars 45 hm with h | h
  · simp [Case.isDigit] at h
  · cases h

theorem Plain.dots {t : Text} {N nf : Nat} (h : Plain t N nf) :
    t.count 46 = if nf = 0 then 0 else 1 := by
  obtain ⟨ip, fp, -, hi, hf, rfl, -, rfl⟩ := h
  rw [pointText, List.count_append, digit_count_dot hi]
  by_cases h0 : fp = []
  · simp [h0]
  · rw [if_neg h0, if_neg (mt List.eq_nil_of_length_eq_zero h0), List.count_cons_self,
      digit_count_dot hf]

/-- the digits after the point: exactly `nf` -/
theorem Plain.frac {t : Text} {N nf : Nat} (h : Plain t N nf) (hnf : nf ≠ 0) :
    ((t.dropWhile (· != 46)).drop 1).length = nf ∧
      ((t.dropWhile (· != 46)).drop 1).all Case.isDigit = true := by
  obtain ⟨ip, fp, -, hi, hf, hl, -, rfl⟩ := h
  have h0 : fp ≠ [] := fun h => hnf (by rw [← hl, h]; rfl)
  rw [pointText_of_ne ip h0, List.dropWhile_append_of_pos (all_ne_dot hi)]
  exact ⟨hl, hf⟩

theorem Plain.stripSign_signText {t : Text} {N nf : Nat} (h : Plain t N nf) (s : Bool) :
    stripSign (signText s ++ t) = (s, t) := by
  obtain ⟨c, r, rfl, hc⟩ := h.head
  cases s
  · unfold stripSign
    split
    · next r' e => exact absurd (List.cons.inj e).1 (digit_ne_minus hc)
    · rfl
  · rfl

/-- whether the signed text starts with a minus: what the binary64 readers take the sign of an
exact zero from -/
theorem Plain.head_minus {t : Text} {N nf : Nat} (h : Plain t N nf) (s : Bool) :
    ((signText s ++ t).head? == some 45) = s := by
  obtain ⟨c, r, rfl, hc⟩ := h.head
  cases s
  · simpa [signText] using digit_ne_minus hc
  · rfl

theorem Plain.scan {α : Type} {f : Bool → Nat → Nat → α} {t : Text} {N nf : Nat} (h : Plain t N nf)
    (s : Bool) : scanWith f (signText s ++ t) = some (f s N nf) := by
  have hs := h.stripSign_signText s
  obtain ⟨ip, fp, hne, hi, hf, rfl, rfl, rfl⟩ := h
  have h1 : ip.isEmpty = false := List.isEmpty_eq_false_iff.mpr hne
  unfold scanWith
  rw [hs]
  dsimp only
  obtain ⟨e1, e2⟩ := takeWhile_dropWhile_append (l₂ := if fp = [] then [] else 46 :: fp)
    (all_ne_dot hi) (by split <;> simp)
  rw [pointText, e1, e2]
  by_cases h0 : fp = []
  · subst h0
    simp [h1, hi]
  · simp [h0, h1, hi, hf]

theorem Plain.parseDec {t : Text} {N nf : Nat} (h : Plain t N nf) (s : Bool) :
    parseDecText (signText s ++ t)
      = some (if s then -((N : ℚ) / 10 ^ nf) else (N : ℚ) / 10 ^ nf, nf) := by
  rw [parseDecText_eq, h.scan, pow10_eq]; simp

theorem natDigits_plain (n : Nat) : Plain (natDigits n) n 0 :=
  ⟨natDigits n, [], natDigits_ne_nil n, natDigits_all n, rfl, rfl, by simp [natDigits_num],
    (pointText_nil _).symm⟩

theorem fixedText_plain (N p : Nat) : Plain (fixedText N p) N p := by
  by_cases hp : p = 0
  · subst hp; simpa [fixedText] using natDigits_plain N
  · have hl := zeroPad_len p _ (natDigits_len _ _ (Nat.pos_of_ne_zero hp) (Nat.mod_lt N (Nat.pow_pos (by decide))))
    exact ⟨natDigits (N / 10 ^ p), zeroPadLeft p (natDigits (N % 10 ^ p)), natDigits_ne_nil _,
      natDigits_all _, zeroPad_all _ _ (natDigits_all _), hl,
      by rw [num_append, hl, natDigits_num, zeroPad_num, natDigits_num, Nat.div_add_mod'],
      by rw [pointText_of_ne _ (List.ne_nil_of_length_pos (by rw [hl]; exact Nat.pos_of_ne_zero hp)), fixedText,
        if_neg hp, List.append_assoc, List.singleton_append]⟩

/-- a half-unit error of the digits is a half-unit error in the last place of the decimal -/
theorem grid_close {N x : ℚ} {p : Nat} (h : |N - x * 10 ^ p| ≤ 1 / 2) :
    |N / 10 ^ p - x| ≤ 1 / (2 * 10 ^ p) := by
  have hp := ten_pow_pos p
  rw [← mul_div_cancel_right₀ x hp.ne', ← sub_div, abs_div, abs_of_pos hp, ← div_div]
  exact div_le_div_of_nonneg_right h hp.le

/-- digits within one half of `y · 10^nf` read, with or without a minus, within half a unit in the
last place of `±y` -/
theorem Plain.parseDec_close {t : Text} {N nf : Nat} (h : Plain t N nf) (s : Bool) {y : ℚ}
    (hb : |(N : ℚ) - y * 10 ^ nf| ≤ 1 / 2) :
    ∃ w, parseDecText (signText s ++ t) = some (w, nf) ∧
      |w - (if s then -y else y)| ≤ 1 / (2 * 10 ^ nf) := by
  refine ⟨_, h.parseDec s, ?_⟩
  cases s
  · exact grid_close hb
  · rw [if_pos rfl, if_pos rfl, ← neg_sub', abs_neg]; exact grid_close hb

/-- the precision in effect: the formatter's, clamped by fpdec to 18, or the stored digit count -/
def effPrec (prec : Option Nat) (d : Dec) : Nat :=
  match prec with
  | some p => min p Dec.maxNfd
  | none => d.nfd

theorem effPrec_of_le {p : Nat} (hp : p ≤ 18) (d : Dec) : effPrec (some p) d = p := Nat.min_eq_left hp

/-- the digits `decAbsText` writes under the effective precision `p`: `|coeff|` brought to `p`
fractional digits, rounded half-even where digits are dropped -/
def decDigits (p : Nat) (d : Dec) : Nat :=
  if p < d.nfd then (divRoundHalfEven d.coeff (Dec.tenPow (d.nfd - p))).natAbs
  else d.coeff.natAbs * 10 ^ (p - d.nfd)

theorem fixedText_shift (c n k : Nat) (h : 0 < n + k) :
    fixedText (c * 10 ^ k) (n + k)
      = natDigits (c / 10 ^ n) ++ [46] ++ zeroPadLeft (n + k) (natDigits (c % 10 ^ n * 10 ^ k)) := by
  have hk : 0 < 10 ^ k := Nat.pow_pos (by decide)
  rw [fixedText, if_neg (by omega), pow_add, Nat.mul_div_mul_right _ _ hk, Nat.mul_mod_mul_right]

theorem zeroPad_zero (p : Nat) (hp : 0 < p) : zeroPadLeft p (natDigits 0) = rep p 48 := by
  obtain ⟨q, rfl⟩ : ∃ q, p = q + 1 := ⟨p - 1, by omega⟩
  simp [zeroPadLeft, natDigits, rep, List.replicate_succ']

theorem decAbsText_eq (prec : Option Nat) (d : Dec) :
    decAbsText prec d = fixedText (decDigits (effPrec prec d) d) (effPrec prec d) := by
  -- the branches of `decAbsText` (`nfd = 0` with or without digits asked for; `p` =, <, > `nfd`): each
  -- is `fixedText` of `decDigits`; where zeros are appended `fixedText_shift` moves them into the
  -- numerator
  unfold decAbsText decDigits effPrec
  cases prec with
  | none =>
    by_cases h0 : d.nfd = 0
    · simp [h0, fixedText]
    · simp [h0, fixedText, Nat.pos_of_ne_zero h0]
  | some p' =>
    simp only []
    generalize min p' Dec.maxNfd = p
    by_cases h0 : d.nfd = 0
    · rw [if_pos h0, h0, if_neg (Nat.not_lt_zero p), Nat.sub_zero]
      split
      · next hp =>
        have := fixedText_shift d.coeff.natAbs 0 p (by omega)
        rw [Nat.zero_add] at this
        rw [this, pow_zero, Nat.div_one, Nat.mod_one, Nat.zero_mul, zeroPad_zero p hp]
      · next hp =>
        obtain rfl : p = 0 := by omega
        simp [fixedText]
    · rw [if_neg h0]
      rcases Nat.lt_trichotomy p d.nfd with hlt | rfl | hgt
      · simp only [hlt, Nat.ne_of_lt hlt, if_true, if_false, fixedText]
        by_cases hp : p = 0
        · simp [hp]
        · simp [hp, Nat.pos_of_ne_zero hp]
      · simp [fixedText, h0, Nat.pos_of_ne_zero h0]
      · have := fixedText_shift d.coeff.natAbs d.nfd (p - d.nfd) (by omega)
        rw [Nat.add_sub_cancel' (le_of_lt hgt)] at this
        simp only [Nat.lt_asymm hgt, Nat.ne_of_gt hgt, Nat.zero_lt_of_lt hgt, if_true, if_false, this]

theorem decAbsText_plain (prec : Option Nat) (d : Dec) :
    Plain (decAbsText prec d) (decDigits (effPrec prec d) d) (effPrec prec d) :=
  decAbsText_eq prec d ▸ fixedText_plain _ _

theorem decAbsText_no_minus (prec : Option Nat) (d : Dec) : (decAbsText prec d).count 45 = 0 :=
  (decAbsText_plain prec d).count_minus

theorem decAbsText_none_plain (d : Dec) : Plain (decAbsText none d) d.coeff.natAbs d.nfd := by
  simpa [effPrec, decDigits] using decAbsText_plain none d

end Qty.Digits
