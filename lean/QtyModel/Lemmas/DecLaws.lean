import QtyModel.Lemmas.RoundHalfEven
import QtyModel.Lemmas.Basic
import Mathlib.Tactic.NormNum
import Mathlib.Tactic.Positivity
import Mathlib.Tactic.Ring
import Mathlib.Data.Rat.Cast.Order
import Mathlib.Algebra.Order.Ring.Abs
import Mathlib.Data.Nat.Cast.Order.Field
/-
  The rounding laws for the exact model of `fpdec::Decimal` (`Dec.laws`), and what other files use of
  that model: the sign `Quantity::fmt` asks for (`ge_zero` …, `abs_toRat`), `Dec!(literal)`
  (`ofLit_wf`, `ofLit_toRat`, `ofLit_val`), `div_ne_unwrapNone`, `safe_of_nonneg`.
-/
namespace Qty

theorem ite_ne {α : Type} {c : Prop} [Decidable c] {x y e : α} (hx : x ≠ e) (hy : y ≠ e) :
    (if c then x else y) ≠ e := by
  split <;> assumption

namespace Dec

theorem tenPow_pos (n : Nat) : 0 < tenPow n := by
  unfold tenPow; positivity

theorem tenPow_cast (n : Nat) : ((tenPow n : Int) : ℚ) = (10 : ℚ) ^ n := pow10_eq n

theorem tenPow_natAbs (n : Nat) : (tenPow n).natAbs = 10 ^ n := by simp [tenPow]

theorem toRat_eq (d : Dec) : d.toRat = (d.coeff : ℚ) / (10 : ℚ) ^ d.nfd := by
  unfold toRat; rw [pow10_eq]

theorem toRat_neg_iff (d : Dec) : d.toRat < 0 ↔ d.coeff < 0 := by
  rw [toRat_eq, div_lt_iff₀ (ten_pow_pos _), zero_mul, Int.cast_lt_zero]

theorem abs_toRat (d : Dec) : |d.toRat| = ((d.coeff.natAbs : Nat) : Rat) / (10 : Rat) ^ d.nfd := by
  rw [toRat_eq, abs_div, abs_of_pos (ten_pow_pos d.nfd), Nat.cast_natAbs,
    Int.cast_abs]

/-- `amount >= 0` as `Quantity::fmt` asks it -/
theorem ge_zero (d : Dec) : Dec.arith.ge d Dec.arith.zero = !decide (d.coeff < 0) := by
  refine (ge_of_cmp (d.coeff * Dec.tenPow 0 < 0 * Dec.tenPow d.nfd) _).trans ?_
  rw [show d.coeff * Dec.tenPow 0 = d.coeff from mul_one _, zero_mul]

theorem ge_zero_false (d : Dec) : Dec.arith.ge d Dec.arith.zero = false ↔ d.coeff < 0 := by
  rw [ge_zero, Bool.not_eq_false', decide_eq_true_eq]

theorem ite_ge_zero (d : Dec) :
    (if Dec.arith.ge d Dec.arith.zero then 0 else 1) = if d.coeff < 0 then 1 else 0 := by
  simp only [ge_zero, Bool.not_eq_true', decide_eq_false_iff_not, ite_not]

/-- the value does not change when the coefficient is aligned to more digits -/
theorem rescale (B : Int) (m n : Nat) (h : n ≤ m) :
    ((B * tenPow (m - n) : Int) : ℚ) / 10 ^ m = (B : ℚ) / 10 ^ n := by
  obtain ⟨k, rfl⟩ := Nat.exists_eq_add_of_le h
  rw [Nat.add_sub_cancel_left, Int.cast_mul, tenPow_cast, pow_add,
    mul_div_mul_right _ _ (ten_pow_pos k).ne']

theorem fits_iff (c : Int) : fits c = true ↔ -(2 ^ 127) ≤ c ∧ c ≤ 2 ^ 127 - 1 := by
  unfold fits i128Min i128Max; simp

theorem wf_iff (d : Dec) : d.wf = true ↔ fits d.coeff = true ∧ d.nfd ≤ 18 := by
  unfold wf maxNfd; simp

theorem val_some {a : Dec} {x : ℚ} (h : Dec.arith.val a = some x) :
    a.wf = true ∧ x = a.toRat := by
  simp only [arith] at h
  split at h
  · next hw => exact ⟨hw, by injection h with h; exact h.symm⟩
  · cases h

theorem val_of_wf {a : Dec} (h : a.wf = true) : Dec.arith.val a = some a.toRat := by
  simp [arith, h]

/-- `10^37 = 10^19 · 10^18` (the safe bound at 18 digits), `+ 1/2` for the rounding;
`10^37 + 1 < 2^127` -/
theorem fits_of_abs_le (c : Int) (h : |(c : ℚ)| ≤ 10 ^ 37 + 1 / 2) : fits c = true := by
  have h' : |c| < 10 ^ 37 + 1 := by
    rw [← Int.cast_lt (R := ℚ), Int.cast_abs]
    exact h.trans_lt (by norm_num)
  rw [abs_lt] at h'
  rw [fits_iff]
  omega

theorem toRat_eq_zero {a : Dec} : a.toRat = 0 ↔ a.coeff = 0 := by
  rw [toRat_eq, div_eq_zero_iff, or_iff_left (ten_pow_pos _).ne', Int.cast_eq_zero]

theorem toRat_eq_one {a : Dec} : a.toRat = 1 ↔ a.coeff = tenPow a.nfd := by
  rw [toRat_eq, div_eq_one_iff_eq (ten_pow_pos _).ne', ← tenPow_cast, Int.cast_inj]

theorem coeff_zero_of_toRat {a : Dec} (h : a.toRat = 0) : a.coeff = 0 := toRat_eq_zero.mp h

theorem eqZero_iff (a : Dec) : a.eqZero = true ↔ a.toRat = 0 := by
  rw [toRat_eq_zero, eqZero, beq_iff_eq]

theorem eqOne_iff (a : Dec) : a.eqOne = true ↔ a.toRat = 1 := by
  rw [toRat_eq_one, eqOne, beq_iff_eq]

theorem wf_zero : zero.wf = true := by decide
theorem wf_one : one.wf = true := by decide
theorem toRat_zero : zero.toRat = 0 := toRat_eq_zero.mpr rfl
theorem toRat_one : one.toRat = 1 := toRat_eq_one.mpr rfl

theorem chk_ok {c : Int} (n : Nat) (h : fits c = true) : chk c n = .ok ⟨c, n⟩ := by
  simp [chk, h]

theorem fits_of_scaled (c : Int) (k : Nat) (hk : k ≤ 18) (h : |(c : ℚ) / 10 ^ k| ≤ 10 ^ 19) :
    fits c = true := by
  apply fits_of_abs_le
  have hp := ten_pow_pos k
  have hk' : (10 : ℚ) ^ k ≤ 10 ^ 18 := pow_le_pow_right₀ (by norm_num) hk
  rw [abs_div, abs_of_pos hp, div_le_iff₀ hp] at h
  calc |(c : ℚ)| ≤ 10 ^ 19 * 10 ^ k := h
    _ ≤ 10 ^ 19 * 10 ^ 18 := mul_le_mul_of_nonneg_left hk' (by norm_num)
    _ ≤ 10 ^ 37 + 1 / 2 := by norm_num

theorem safe_iff (t : ℚ) : ErrModel.dec.safe t = true ↔ |t| ≤ 10 ^ 19 := by
  simp [ErrModel.dec, ratAbs_eq_abs, pow10_eq]

theorem safe_of_nonneg {t : ℚ} (h0 : 0 ≤ t) : ErrModel.dec.safe t = decide (t ≤ 10 ^ 19) := by
  rw [Bool.eq_iff_iff, safe_iff, abs_of_nonneg h0, decide_eq_true_eq]

theorem dec_E (t : ℚ) : ErrModel.dec.E t = 1 / (2 * 10 ^ 18) := by
  simp [ErrModel.dec, ErrModel.eta18, pow10_eq]

theorem dec_Ea (t : ℚ) : ErrModel.dec.Ea t = 0 := rfl

theorem eta_nonneg : (0 : ℚ) ≤ 1 / (2 * 10 ^ 18) := by positivity

theorem errModel_wf : ErrModel.dec.WF where
  E_nonneg := fun x => by rw [dec_E]; exact eta_nonneg
  E_mono := fun x y _ => by rw [dec_E, dec_E]
  Ea_nonneg := fun x => by rw [dec_Ea]
  Ea_mono := fun x y _ => by rw [dec_Ea, dec_Ea]
  safe_mono := fun x y h hy => by
    rw [safe_iff] at hy ⊢
    rw [ratAbs_eq_abs, ratAbs_eq_abs] at h
    exact le_trans h hy

/-- the rounding step shared by `mul` and `div`: the exact quotient `N / D` is `q·10^18`
with `|q| ≤ 10^19`. -/
theorem round_core (N D : Int) (hD : D ≠ 0) (q : ℚ) (hq : (N : ℚ) / (D : ℚ) = q * 10 ^ 18)
    (hs : |q| ≤ 10 ^ 19) :
    fits (divRoundHalfEven N D) = true ∧
    |((divRoundHalfEven N D : Int) : ℚ) / 10 ^ 18 - q| ≤ 1 / (2 * 10 ^ 18) ∧
    ¬ (N.natAbs / D.natAbs > i128Max.toNat) := by
  have hb := rhe_bound N D hD
  have h10 := ten_pow_pos 18
  have hq18 : |(N : ℚ) / D| ≤ 10 ^ 37 := by
    rw [hq, abs_mul, abs_of_pos h10]
    exact (mul_le_mul_of_nonneg_right hs h10.le).trans_eq (by norm_num)
  refine ⟨fits_of_abs_le _ ((abs_le_of_abs_sub_le hb).trans (add_le_add_left hq18 _)), ?_, ?_⟩
  · rw [hq] at hb
    rw [← mul_div_cancel_right₀ q h10.ne', ← sub_div, abs_div, abs_of_pos h10, div_le_iff₀ h10]
    exact hb.trans_eq (by norm_num)
  · -- the floor quotient of the magnitudes is at most the magnitude of the exact quotient
    have h : ((N.natAbs / D.natAbs : ℕ) : ℚ) ≤ ((10 ^ 37 : ℕ) : ℚ) := by
      refine (Nat.cast_div_le (α := ℚ)).trans ?_
      rw [Nat.cast_natAbs, Nat.cast_natAbs, Int.cast_abs, Int.cast_abs, ← abs_div]
      exact hq18.trans_eq (by norm_cast)
    rw [show i128Max.toNat = 2 ^ 127 - 1 from rfl, not_lt]
    exact (Nat.cast_le.mp h).trans (by decide)

theorem normalizeAux_spec (fuel : Nat) : ∀ (c : Int) (n : Nat), fits c = true → n ≤ 18 →
    (normalizeAux fuel c n).wf = true ∧
    (normalizeAux fuel c n).toRat = (c : ℚ) / (10 : ℚ) ^ n := by
  induction fuel with
  | zero => exact fun c n hc hn => ⟨(wf_iff _).mpr ⟨hc, hn⟩, toRat_eq _⟩
  | succ fuel ih =>
    intro c n hc hn
    unfold normalizeAux
    split_ifs with h
    · have hc' : fits (c / 10) = true := by
        rw [fits_iff] at hc ⊢
        constructor <;> omega
      obtain ⟨w, e⟩ := ih (c / 10) (n - 1) hc' (by omega)
      refine ⟨w, ?_⟩
      have h1 : n - (n - 1) = 1 := by omega
      rw [e, ← rescale (c / 10) n (n - 1) (Nat.sub_le _ _), h1,
        show tenPow 1 = 10 from rfl, Int.ediv_mul_cancel (Int.dvd_of_emod_eq_zero h.2)]
    · exact ⟨(wf_iff _).mpr ⟨hc, hn⟩, toRat_eq _⟩

theorem normalize_spec (c : Int) (n : Nat) (hc : fits c = true) (hn : n ≤ 18) :
    (normalize c n).wf = true ∧ (normalize c n).toRat = (c : ℚ) / (10 : ℚ) ^ n := by
  unfold normalize
  split_ifs with h
  · subst h
    refine ⟨by decide, ?_⟩
    rw [toRat_eq]; simp
  · exact normalizeAux_spec n c n hc hn

theorem toRat_mul (a b : Dec) :
    a.toRat * b.toRat = ((a.coeff * b.coeff : Int) : ℚ) / 10 ^ (a.nfd + b.nfd) := by
  rw [toRat_eq, toRat_eq, pow_add, Int.cast_mul, div_mul_div_comm]

/-- A factor is zero or one: `mul` returns zero or the other factor as it is, which is the exact
product whatever its size. -/
theorem mul_shortcut (a b : Dec) (wa : a.wf = true) (wb : b.wf = true)
    (h : (a.toRat = 0 ∨ b.toRat = 0) ∨ b.toRat = 1 ∨ a.toRat = 1) :
    ∃ c, Dec.mul a b = .ok c ∧ c.wf = true ∧ c.toRat = a.toRat * b.toRat := by
  unfold Dec.mul
  simp only [Bool.or_eq_true, eqZero_iff, eqOne_iff]
  by_cases h0 : a.toRat = 0 ∨ b.toRat = 0
  · rw [if_pos h0]
    exact ⟨zero, rfl, wf_zero, by rcases h0 with h | h <;> simp [h, toRat_zero]⟩
  rw [if_neg h0]
  by_cases h1 : b.toRat = 1
  · rw [if_pos h1]
    exact ⟨a, rfl, wa, by rw [h1, mul_one]⟩
  have h2 : a.toRat = 1 := (h.resolve_left h0).resolve_left h1
  rw [if_neg h1, if_pos h2]
  exact ⟨b, rfl, wb, by rw [h2, one_mul]⟩

theorem mul_ok (a b : Dec) (x y : ℚ) (ha : Dec.arith.val a = some x)
    (hb : Dec.arith.val b = some y) (hs : ErrModel.dec.safe (x * y) = true) :
    ∃ c z, Dec.arith.mul a b = .ok c ∧ Dec.arith.val c = some z ∧
      ratAbs (z - x * y) ≤ ErrModel.dec.E (x * y) := by
  obtain ⟨wa, rfl⟩ := val_some ha
  obtain ⟨wb, rfl⟩ := val_some hb
  rw [safe_iff] at hs
  rw [dec_E]
  simp only [ratAbs_eq_abs]
  show ∃ c z, Dec.mul a b = .ok c ∧ _
  by_cases h : (a.toRat = 0 ∨ b.toRat = 0) ∨ b.toRat = 1 ∨ a.toRat = 1
  · obtain ⟨c, hc, wc, e⟩ := mul_shortcut a b wa wb h
    exact ⟨c, _, hc, val_of_wf wc, by rw [e, sub_self, abs_zero]; exact eta_nonneg⟩
  unfold Dec.mul
  simp only [Bool.or_eq_true, eqZero_iff, eqOne_iff]
  rw [if_neg (h ∘ .inl), if_neg (h ∘ .inr ∘ .inl), if_neg (h ∘ .inr ∘ .inr)]
  rw [toRat_mul] at hs ⊢
  generalize a.coeff * b.coeff = p at *
  by_cases h3 : a.nfd + b.nfd ≤ maxNfd
  · rw [if_pos h3]
    have hf : fits p = true := fits_of_scaled p _ h3 hs
    refine ⟨⟨p, a.nfd + b.nfd⟩, _, chk_ok _ hf, val_of_wf ((wf_iff _).mpr ⟨hf, h3⟩), ?_⟩
    rw [toRat_eq, sub_self, abs_zero]; exact eta_nonneg
  rw [if_neg h3]
  have hsh : a.nfd + b.nfd = (a.nfd + b.nfd - maxNfd) + 18 := by unfold maxNfd at *; omega
  generalize a.nfd + b.nfd - maxNfd = sh at *
  rw [hsh] at hs ⊢
  have hq : (p : ℚ) / ((tenPow sh : Int) : ℚ) = (p : ℚ) / 10 ^ (sh + 18) * 10 ^ 18 := by
    rw [tenPow_cast, pow_add, div_mul_eq_mul_div, mul_div_mul_right _ _ (by norm_num)]
  obtain ⟨hf, hbd, hno⟩ := round_core p (tenPow sh) (ne_of_gt (tenPow_pos sh)) _ hq hs
  rw [tenPow_natAbs] at hno
  rw [if_neg hno]
  refine ⟨_, _, chk_ok _ hf, val_of_wf ((wf_iff _).mpr ⟨hf, le_refl _⟩), ?_⟩
  rw [toRat_eq]
  exact hbd

theorem toRat_div (a b : Dec) (ha : a.nfd ≤ 18) :
    ((a.coeff * tenPow (maxNfd + b.nfd - a.nfd) : Int) : ℚ) / (b.coeff : ℚ)
      = a.toRat / b.toRat * 10 ^ 18 := by
  have h := rescale a.coeff (maxNfd + b.nfd) a.nfd (by unfold maxNfd; omega)
  rw [← toRat_eq, div_eq_iff (ten_pow_pos _).ne'] at h
  rw [h, toRat_eq b, pow_add, div_div_eq_mul_div]
  unfold maxNfd
  ring

/-- The dividend is zero or the divisor one: `div` returns zero or the dividend as it is, the
exact quotient whatever its size. -/
theorem div_shortcut (a b : Dec) (wa : a.wf = true) (hb0 : b.toRat ≠ 0)
    (h : a.toRat = 0 ∨ b.toRat = 1) :
    ∃ c, Dec.div a b = .ok c ∧ c.wf = true ∧ c.toRat = a.toRat / b.toRat := by
  unfold Dec.div
  simp only [eqZero_iff, eqOne_iff]
  rw [if_neg hb0]
  by_cases h1 : a.toRat = 0
  · rw [if_pos h1]
    exact ⟨zero, rfl, wf_zero, by rw [h1, zero_div, toRat_zero]⟩
  have h2 : b.toRat = 1 := h.resolve_left h1
  rw [if_neg h1, if_pos h2]
  exact ⟨a, rfl, wa, by rw [h2, div_one]⟩

/-- the last conjunct: exact when the quotient has at most 18 fractional digits (used by
`div_self_val`) -/
theorem div_core (a b : Dec) (wa : a.wf = true) (hb0 : b.toRat ≠ 0)
    (hs : |a.toRat / b.toRat| ≤ 10 ^ 19) :
    ∃ c, Dec.div a b = .ok c ∧ c.wf = true ∧
      |c.toRat - a.toRat / b.toRat| ≤ 1 / (2 * 10 ^ 18) ∧
      ∀ k : Int, a.toRat / b.toRat * 10 ^ 18 = (k : ℚ) → c.toRat = a.toRat / b.toRat := by
  by_cases h : a.toRat = 0 ∨ b.toRat = 1
  · obtain ⟨c, hc, wc, e⟩ := div_shortcut a b wa hb0 h
    exact ⟨c, hc, wc, by rw [e, sub_self, abs_zero]; exact eta_nonneg, fun _ _ => e⟩
  unfold Dec.div
  simp only [eqZero_iff, eqOne_iff]
  rw [if_neg hb0, if_neg (h ∘ .inl), if_neg (h ∘ .inr)]
  have hc0 : b.coeff ≠ 0 := mt toRat_eq_zero.mpr hb0
  have hq := toRat_div a b ((wf_iff a).mp wa).2
  obtain ⟨hf, hbd, hno⟩ := round_core _ _ hc0 _ hq hs
  rw [if_neg hno, if_pos hf]
  obtain ⟨wn, en⟩ := normalize_spec _ maxNfd hf (le_refl _)
  refine ⟨_, rfl, wn, ?_, ?_⟩
  · rw [en]; exact hbd
  · intro k hk
    rw [en]
    have hb := rhe_bound (a.coeff * tenPow (maxNfd + b.nfd - a.nfd)) b.coeff hc0
    rw [hq, hk] at hb
    -- two integers within one half of each other are equal
    have hr : divRoundHalfEven (a.coeff * tenPow (maxNfd + b.nfd - a.nfd)) b.coeff = k := by
      rw [← sub_eq_zero, ← Int.abs_lt_one_iff, ← Int.cast_lt (R := ℚ), Int.cast_abs, Int.cast_sub]
      exact hb.trans_lt (by norm_num)
    rw [hr, ← hk]
    exact mul_div_cancel_right₀ _ (ten_pow_pos 18).ne'

theorem div_ok (a b : Dec) (x y : ℚ) (ha : Dec.arith.val a = some x)
    (hb : Dec.arith.val b = some y) (hy : y ≠ 0) (hs : ErrModel.dec.safe (x / y) = true) :
    ∃ c z, Dec.arith.div a b = .ok c ∧ Dec.arith.val c = some z ∧
      ratAbs (z - x / y) ≤ ErrModel.dec.E (x / y) := by
  obtain ⟨wa, rfl⟩ := val_some ha
  obtain ⟨wb, rfl⟩ := val_some hb
  rw [safe_iff] at hs
  rw [dec_E]
  simp only [ratAbs_eq_abs]
  obtain ⟨c, hc, wc, hbd, _⟩ := div_core a b wa hy hs
  exact ⟨c, c.toRat, hc, val_of_wf wc, hbd⟩

theorem div_self_val (a b : Dec) (x : ℚ) (ha : Dec.arith.val a = some x)
    (hb : Dec.arith.val b = some x) (hx : x ≠ 0) :
    ∃ c, Dec.arith.div a b = .ok c ∧ Dec.arith.val c = some 1 := by
  obtain ⟨wa, rfl⟩ := val_some ha
  obtain ⟨wb, hxb⟩ := val_some hb
  have hq : a.toRat / b.toRat = 1 := by rw [← hxb]; exact div_self hx
  obtain ⟨c, hc, wc, _, hex⟩ := div_core a b wa (hxb ▸ hx) (by rw [hq]; norm_num)
  refine ⟨c, hc, ?_⟩
  rw [val_of_wf wc, hex (10 ^ 18) (by rw [hq]; push_cast; ring), hq]

theorem fits_aligned_of_safe (a : Dec) (wa : a.wf = true) (k : Nat) (hk : k ≤ 18)
    (hs : |a.toRat| ≤ 10 ^ 19) : fits (a.coeff * tenPow (k - a.nfd)) = true := by
  by_cases h : k ≤ a.nfd
  · rw [Nat.sub_eq_zero_of_le h]
    have : tenPow 0 = 1 := rfl
    rw [this, mul_one]
    exact ((wf_iff a).mp wa).1
  · apply fits_of_scaled _ k hk
    rw [rescale a.coeff k a.nfd (by omega), ← toRat_eq]
    exact hs

/-! `Dec.add` and `Dec.sub` are `addSub f` for `f = (· + ·)`, `(· - ·)`; all that is used of `f` is
that it computes, on coefficients at a common digit count, the rational operation `g`.

`add_ok` / `sub_ok` of `Laws` are FALSE for this model without their hypotheses on the operands
(see `add_ok_false`, `sub_ok_false` below): aligning the operand with fewer fractional digits can
overflow `i128` although the exact sum is in the safe range.  They hold under the extra hypothesis
that the aligned coefficients fit (`addSub_ok_of_fits`), in particular when both operands are
themselves in the safe range (`addSub_ok_of_safe`). -/
section addSub
variable {f : Int → Int → Int} {g : ℚ → ℚ → ℚ}
  (hfg : ∀ (p q : Int) (t : ℚ), t ≠ 0 → g (p / t) (q / t) = ((f p q : Int) : ℚ) / t)
include hfg

theorem addSub_aligned (A B : Int) (m : Nat) (hm : m ≤ 18)
    (hs : |g ((A : ℚ) / 10 ^ m) ((B : ℚ) / 10 ^ m)| ≤ 10 ^ 19) :
    ∃ c, chk (f A B) m = .ok c ∧ c.wf = true ∧
      c.toRat = g ((A : ℚ) / 10 ^ m) ((B : ℚ) / 10 ^ m) := by
  have e := hfg A B (10 ^ m) (ten_pow_pos m).ne'
  have hf := fits_of_scaled _ m hm (e ▸ hs)
  exact ⟨_, chk_ok _ hf, (wf_iff _).mpr ⟨hf, hm⟩, (toRat_eq _).trans e.symm⟩

/-- the law of `Laws` for `+`/`-` with the weakest extra hypothesis: the aligned coefficients fit
`i128` (`b.nfd - a.nfd` is truncated subtraction, so one of the two is just `fits a.coeff`) -/
theorem addSub_ok_of_fits (a b : Dec) (x y : ℚ) (ha : Dec.arith.val a = some x)
    (hb : Dec.arith.val b = some y)
    (hfa : fits (a.coeff * tenPow (b.nfd - a.nfd)) = true)
    (hfb : fits (b.coeff * tenPow (a.nfd - b.nfd)) = true)
    (hs : ErrModel.dec.safe (g x y) = true) :
    ∃ c z, addSub f a b = .ok c ∧ Dec.arith.val c = some z ∧
      ratAbs (z - g x y) ≤ ErrModel.dec.Ea (g x y) := by
  obtain ⟨wa, rfl⟩ := val_some ha
  obtain ⟨wb, rfl⟩ := val_some hb
  rw [safe_iff] at hs
  suffices ∃ c, addSub f a b = .ok c ∧ c.wf = true ∧ c.toRat = g a.toRat b.toRat by
    obtain ⟨c, hc, wc, e⟩ := this
    exact ⟨c, c.toRat, hc, val_of_wf wc, by rw [e, sub_self]; exact le_refl _⟩
  have hm := ((wf_iff a).mp wa).2
  have hn := ((wf_iff b).mp wb).2
  rw [toRat_eq, toRat_eq] at hs ⊢
  unfold addSub
  by_cases h1 : a.nfd = b.nfd
  · rw [if_pos h1]
    rw [← h1] at hs ⊢
    exact addSub_aligned hfg _ _ _ hm hs
  rw [if_neg h1]
  by_cases h2 : a.nfd > b.nfd
  · rw [if_pos h2]
    dsimp only
    rw [if_pos hfb]
    rw [← rescale b.coeff a.nfd b.nfd (le_of_lt h2)] at hs ⊢
    exact addSub_aligned hfg _ _ _ hm hs
  · rw [if_neg h2]
    dsimp only
    rw [if_pos hfa]
    rw [← rescale a.coeff b.nfd a.nfd (by omega)] at hs ⊢
    exact addSub_aligned hfg _ _ _ hn hs

theorem addSub_ok_of_safe (a b : Dec) (x y : ℚ) (ha : Dec.arith.val a = some x)
    (hb : Dec.arith.val b = some y) (hsx : ErrModel.dec.safe x = true)
    (hsy : ErrModel.dec.safe y = true) (hs : ErrModel.dec.safe (g x y) = true) :
    ∃ c z, addSub f a b = .ok c ∧ Dec.arith.val c = some z ∧
      ratAbs (z - g x y) ≤ ErrModel.dec.Ea (g x y) := by
  obtain ⟨wa, hx⟩ := val_some ha
  obtain ⟨wb, hy⟩ := val_some hb
  rw [safe_iff, hx] at hsx
  rw [safe_iff, hy] at hsy
  exact addSub_ok_of_fits hfg a b x y ha hb
    (fits_aligned_of_safe a wa _ ((wf_iff b).mp wb).2 hsx)
    (fits_aligned_of_safe b wb _ ((wf_iff a).mp wa).2 hsy) hs

end addSub

/-- `-170141183460469231731.687303715884105728` (`i128::MIN` at 18 digits) -/
def cexA : Dec := ⟨-(2 ^ 127), 18⟩
/-- `170141183460469231732` -/
def cexB : Dec := ⟨170141183460469231732, 0⟩
/-- `-170141183460469231732` -/
def cexB' : Dec := ⟨-170141183460469231732, 0⟩

/-- an overflow on well-formed operands whose exact result is in range refutes the law that asks
nothing of the operands -/
theorem not_ok_of_overflow {op : Dec → Dec → Res Dec} {g : ℚ → ℚ → ℚ} {a b : Dec}
    (wa : a.wf = true) (wb : b.wf = true) (hov : op a b = .error .overflow)
    (hs : |g a.toRat b.toRat| ≤ 10 ^ 19) :
    ¬ ∀ a b x y, Dec.arith.val a = some x → Dec.arith.val b = some y →
      ErrModel.dec.safe (g x y) = true →
      ∃ c z, op a b = .ok c ∧ Dec.arith.val c = some z ∧
        ratAbs (z - g x y) ≤ ErrModel.dec.Ea (g x y) := by
  intro h
  obtain ⟨c, z, hc, _⟩ := h a b _ _ (val_of_wf wa) (val_of_wf wb) ((safe_iff _).mpr hs)
  rw [hov] at hc
  cases hc

/-- `Laws.add_ok` for `Dec.arith` without its two hypotheses on the operands is false -/
theorem add_ok_false : ¬ ∀ a b x y, Dec.arith.val a = some x → Dec.arith.val b = some y →
    ErrModel.dec.safe (x + y) = true →
    ∃ c z, Dec.arith.add a b = .ok c ∧ Dec.arith.val c = some z ∧
      ratAbs (z - (x + y)) ≤ ErrModel.dec.Ea (x + y) :=
  not_ok_of_overflow (op := Dec.add) (g := (· + ·)) (a := cexA) (b := cexB)
    (by decide) (by decide) (by decide) (by norm_num [toRat_eq, cexA, cexB, abs_le])

/-- `Laws.sub_ok` for `Dec.arith` without its two hypotheses on the operands is false -/
theorem sub_ok_false : ¬ ∀ a b x y, Dec.arith.val a = some x → Dec.arith.val b = some y →
    ErrModel.dec.safe (x - y) = true →
    ∃ c z, Dec.arith.sub a b = .ok c ∧ Dec.arith.val c = some z ∧
      ratAbs (z - (x - y)) ≤ ErrModel.dec.Ea (x - y) :=
  not_ok_of_overflow (op := Dec.sub) (g := (· - ·)) (a := cexA) (b := cexB')
    (by decide) (by decide) (by decide) (by norm_num [toRat_eq, cexA, cexB', abs_le])

theorem cross_eq (a b : Dec) :
    a.coeff * tenPow b.nfd = b.coeff * tenPow a.nfd ↔ a.toRat = b.toRat := by
  rw [toRat_eq, toRat_eq, div_eq_div_iff (ten_pow_pos _).ne' (ten_pow_pos _).ne',
    ← tenPow_cast, ← tenPow_cast]
  norm_cast

theorem cross_lt (a b : Dec) :
    a.coeff * tenPow b.nfd < b.coeff * tenPow a.nfd ↔ a.toRat < b.toRat := by
  rw [toRat_eq, toRat_eq, div_lt_div_iff₀ (ten_pow_pos _) (ten_pow_pos _),
    ← tenPow_cast, ← tenPow_cast]
  norm_cast

/-- for ALL data, well-formed or not -/
theorem pcmp_eq (a b : Dec) : Dec.pcmp a b = some (ratCmp a.toRat b.toRat) := by
  unfold Dec.pcmp ratCmp
  simp only [cross_eq, cross_lt]

theorem beq_eq (a b : Dec) : Dec.beq a b = decide (a.toRat = b.toRat) := by
  unfold Dec.beq
  rw [Bool.eq_iff_iff, beq_iff_eq, decide_eq_true_iff]
  exact cross_eq a b

theorem pcmp_val (a b : Dec) (x y : ℚ) (ha : Dec.arith.val a = some x)
    (hb : Dec.arith.val b = some y) : Dec.arith.pcmp a b = some (ratCmp x y) := by
  obtain ⟨_, rfl⟩ := val_some ha
  obtain ⟨_, rfl⟩ := val_some hb
  exact pcmp_eq a b

theorem beq_pcmp (a b : Dec) : Dec.arith.beq a b = (Dec.arith.pcmp a b == some .eq) := by
  show Dec.beq a b = (Dec.pcmp a b == some .eq)
  rw [beq_eq, pcmp_eq, ratCmp_beq_eq]

theorem beq_val (a b : Dec) (x y : ℚ) (ha : Dec.arith.val a = some x)
    (hb : Dec.arith.val b = some y) : Dec.arith.beq a b = decide (x = y) := by
  rw [beq_pcmp, pcmp_val a b x y ha hb, ratCmp_beq_eq]

theorem pcmp_flip (a b : Dec) : Dec.arith.pcmp b a = Oracle.flipOrd (Dec.arith.pcmp a b) := by
  show Dec.pcmp b a = Oracle.flipOrd (Dec.pcmp a b)
  rw [pcmp_eq, pcmp_eq, ratCmp_flip]

theorem one_val : Dec.arith.val Dec.arith.one = some 1 := by
  show Dec.arith.val one = _
  rw [val_of_wf wf_one, toRat_one]

theorem zero_val : Dec.arith.val Dec.arith.zero = some 0 := by
  show Dec.arith.val zero = _
  rw [val_of_wf wf_zero, toRat_zero]

theorem mul_shortcut_val (a b : Dec) (x y : ℚ) (ha : Dec.arith.val a = some x)
    (hb : Dec.arith.val b = some y) (h : (x = 0 ∨ y = 0) ∨ y = 1 ∨ x = 1) :
    ∃ c, Dec.arith.mul a b = .ok c ∧ Dec.arith.val c = some (x * y) := by
  obtain ⟨wa, rfl⟩ := val_some ha
  obtain ⟨wb, rfl⟩ := val_some hb
  obtain ⟨c, hc, wc, e⟩ := mul_shortcut a b wa wb h
  exact ⟨c, hc, e ▸ val_of_wf wc⟩

theorem one_mul_val (c d : Dec) (y : ℚ) (hc : Dec.arith.val c = some 1)
    (hd : Dec.arith.val d = some y) :
    ∃ d', Dec.arith.mul c d = .ok d' ∧ Dec.arith.val d' = some y :=
  one_mul y ▸ mul_shortcut_val c d 1 y hc hd (.inr (.inr rfl))

theorem mul_one_val (c d : Dec) (y : ℚ) (hc : Dec.arith.val c = some 1)
    (hd : Dec.arith.val d = some y) :
    ∃ d', Dec.arith.mul d c = .ok d' ∧ Dec.arith.val d' = some y :=
  mul_one y ▸ mul_shortcut_val d c y 1 hd hc (.inr (.inl rfl))

theorem div_one_val (c d : Dec) (y : ℚ) (hc : Dec.arith.val c = some 1)
    (hd : Dec.arith.val d = some y) :
    ∃ d', Dec.arith.div d c = .ok d' ∧ Dec.arith.val d' = some y := by
  obtain ⟨-, h1⟩ := val_some hc
  obtain ⟨wd, rfl⟩ := val_some hd
  obtain ⟨e, he, we, hv⟩ := div_shortcut d c wd (h1 ▸ one_ne_zero) (.inr h1.symm)
  exact ⟨e, he, by rw [val_of_wf we, hv, ← h1, div_one]⟩

/-- every exit of `Dec.div` is `.ok _`, `divByZero` or `overflow` -/
theorem div_ne_unwrapNone (a b : Dec) : Dec.arith.div a b ≠ .error .unwrapNone :=
  ite_ne nofun (ite_ne nofun (ite_ne nofun (ite_ne nofun (ite_ne nofun nofun))))

theorem laws : Laws Dec.arith ErrModel.dec where
  wf := errModel_wf
  mul_ok := mul_ok
  div_ok := div_ok
  add_ok := addSub_ok_of_safe (f := (· + ·)) (g := (· + ·)) fun p q t _ => by push_cast; ring
  sub_ok := addSub_ok_of_safe (f := (· - ·)) (g := (· - ·)) fun p q t _ => by push_cast; ring
  beq_val := beq_val
  pcmp_val := pcmp_val
  beq_pcmp := beq_pcmp
  pcmp_flip := pcmp_flip
  one_val := one_val
  zero_val := zero_val
  div_self_val := div_self_val
  one_mul_val := one_mul_val
  mul_one_val := mul_one_val
  div_one_val := div_one_val

/-- what a successful `Dec!(l)` returns, with `e = l.exp - l.nfrac`: at most 18 fractional digits,
a coefficient that fits, `± digits · 10^e⁺` at `(-e)⁺` digits -/
theorem ofLit_some {l : Lit} {d : Dec} (h : ofLit l = some d) :
    -(l.exp - (l.nfrac : Int)) ≤ (maxNfd : Int) ∧ fits d.coeff = true ∧
    d.nfd = (-(l.exp - (l.nfrac : Int))).toNat ∧
    d.coeff = (if l.neg then -1 else 1) *
      ((l.digits : Int) * tenPow (l.exp - (l.nfrac : Int)).toNat) := by
  unfold ofLit at h
  generalize l.exp - (l.nfrac : Int) = e at h ⊢
  have hc : (if e > 0 then tenPow e.toNat else 1) = tenPow e.toNat := by
    split
    · rfl
    · rw [show e.toNat = 0 from Int.toNat_of_nonpos (by omega)]; rfl
  have hn : (if e < 0 then (-e).toNat else 0) = (-e).toNat := by
    split
    · rfl
    · rw [show (-e).toNat = 0 from Int.toNat_of_nonpos (by omega)]
  rw [Option.ite_none_left_eq_some, Option.ite_none_left_eq_some, Option.ite_none_right_eq_some,
    hc, hn] at h
  obtain ⟨h1, -, hf, h⟩ := h
  obtain rfl := Option.some.inj h
  exact ⟨not_lt.mp h1, hf, rfl, by cases l.neg <;> simp⟩

theorem ofLit_wf (l : Lit) (x : Dec) (h : ofLit l = some x) : x.wf = true := by
  obtain ⟨h1, hf, hn, -⟩ := ofLit_some h
  exact (wf_iff x).mpr ⟨hf, by rw [hn]; unfold maxNfd at h1; omega⟩

theorem ofLit_toRat (l : Lit) (d : Dec) (h : ofLit l = some d) : d.toRat = l.value := by
  obtain ⟨-, -, hn, hc⟩ := ofLit_some h
  rw [toRat_eq, hn, hc, Lit.value]
  generalize l.exp - (l.nfrac : Int) = e
  rw [pow10_eq, pow10_eq, ite_toNat_zpow, Int.cast_mul, Int.cast_mul, tenPow_cast, ten_zpow_split e]
  cases l.neg <;> simp [mul_div_assoc, neg_div]

theorem ofLit_val (l : Lit) (x : Dec) (h : ofLit l = some x) :
    Dec.arith.val x = some l.value := by
  rw [val_of_wf (ofLit_wf l x h), ofLit_toRat l x h]

end Dec

end Qty
