import QtyModel.Fmt
/-
  `Fmt.padNumeric` (`pad_integral`) in one formula: `fill* sign 0* body fill*`, with the three
  amounts of padding given by `padding`.  Core Lean only: the tie module `Props/TieFmt.lean` uses it.
  (Namespace `Qty.C15`: the statements of `Props/C15.lean` name `C15.signOf`.)
-/
namespace Qty.C15
open Qty.Fmt

/-- the sign text: exactly one leading minus for negative amounts, `+` only with the flag -/
def signOf (sp : Spec) (nonneg : Bool) : Text := if !nonneg then [45] else if sp.plus then [43] else []

/-- the three paddings of `pad_integral` around a text of `len` characters (sign included): fill
before the sign, zeros between sign and text, fill after the text -/
def padding (sp : Spec) (len : Nat) : Nat × Nat × Nat :=
  let pad := sp.width.getD 0 - len
  if sp.zero then (0, pad, 0)
  else match sp.align with
    | some .left => (0, 0, pad)
    | some .center => (pad / 2, 0, (pad + 1) / 2)
    | _ => (pad, 0, 0)

/-- centring splits the padding into two halves, the odd one out after the text -/
theorem halves (pad : Nat) :
    pad / 2 + (pad + 1) / 2 = pad ∧ ((pad + 1) / 2 = pad / 2 ∨ (pad + 1) / 2 = pad / 2 + 1) := by
  omega

theorem padding_sum (sp : Spec) (len : Nat) :
    (padding sp len).1 + (padding sp len).2.1 + (padding sp len).2.2 = sp.width.getD 0 - len := by
  unfold padding
  generalize sp.width.getD 0 - len = pad
  cases sp.zero
  · rcases sp.align with _ | (_ | _ | _)
    · rfl
    · exact Nat.zero_add _
    · exact (halves pad).1
    · rfl
  · exact Nat.zero_add _

theorem padding_zero (sp : Spec) (len : Nat) :
    (sp.zero = true → (padding sp len).1 = 0 ∧ (padding sp len).2.2 = 0) ∧
    (sp.zero = false → (padding sp len).2.1 = 0) := by
  unfold padding
  cases sp.zero
  · rcases sp.align with _ | (_ | _ | _) <;> exact ⟨nofun, fun _ => rfl⟩
  · exact ⟨fun _ => ⟨rfl, rfl⟩, nofun⟩

theorem padding_align (sp : Spec) (len : Nat) (hz : sp.zero = false) :
    (sp.align = some .left → (padding sp len).1 = 0) ∧
    ((sp.align = some .right ∨ sp.align = none) → (padding sp len).2.2 = 0) ∧
    (sp.align = some .center → (padding sp len).2.2 = (padding sp len).1 ∨
      (padding sp len).2.2 = (padding sp len).1 + 1) := by
  unfold padding
  rw [hz]
  generalize sp.width.getD 0 - len = pad
  rcases sp.align with _ | (_ | _ | _)
  · exact ⟨nofun, fun _ => rfl, nofun⟩
  · exact ⟨fun _ => rfl, nofun, nofun⟩
  · exact ⟨nofun, nofun, fun _ => (halves pad).2⟩
  · exact ⟨nofun, fun _ => rfl, nofun⟩

theorem no_zeros (X body Y : Text) : X ++ rep 0 48 ++ body ++ Y = X ++ body ++ Y := by
  rw [show rep 0 48 = [] from rfl, List.append_nil]

theorem padNumeric_eq (sp : Spec) (nonneg : Bool) (body : Text) :
    padNumeric sp nonneg body =
      rep (padding sp (body.length + (signOf sp nonneg).length)).1 (sp.fill.getD 32) ++ signOf sp nonneg
        ++ rep (padding sp (body.length + (signOf sp nonneg).length)).2.1 48 ++ body
        ++ rep (padding sp (body.length + (signOf sp nonneg).length)).2.2 (sp.fill.getD 32) := by
  -- a text that fills the width gets no padding, whatever the flags
  have h0 : ∀ len, sp.width.getD 0 ≤ len → padding sp len = (0, 0, 0) := by
    intro len h
    unfold padding
    rw [Nat.sub_eq_zero_of_le h]
    split
    · rfl
    · split <;> rfl
  have hfit (f : Nat) (sg : Text) : rep 0 f ++ sg ++ rep 0 48 ++ body ++ rep 0 f = sg ++ body :=
    (no_zeros _ _ _).trans (List.append_nil _)
  unfold padNumeric signOf
  dsimp only
  generalize (if (!nonneg) = true then [45] else if sp.plus = true then [43] else ([] : Text)) = sg
  cases hw : sp.width with
  | none => rw [h0 _ (by rw [hw]; exact Nat.zero_le _)]; exact (hfit _ _).symm
  | some w =>
    dsimp only
    by_cases h : w ≤ body.length + sg.length
    · rw [if_pos h, h0 _ (by rw [hw]; exact h)]; exact (hfit _ _).symm
    · rw [if_neg h]
      unfold padding
      rw [hw]
      cases sp.zero
      · rcases sp.align with _ | (_ | _ | _) <;> exact (no_zeros _ _ _).symm
      · exact (List.append_nil _).symm

end Qty.C15
