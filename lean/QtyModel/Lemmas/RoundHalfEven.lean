import QtyModel.Base
import Mathlib.Tactic.Ring
import Mathlib.Data.Rat.Cast.Order
import Mathlib.Algebra.Order.Ring.Abs
import Mathlib.Algebra.Order.Field.Basic
/-
  `divRoundHalfEven n d` is within half a unit of `n / d`: both amount back-ends round with it.
-/
namespace Qty

theorem divRoundHalfEven_of_neg (n d : Int) (h : d < 0) :
    divRoundHalfEven n d = divRoundHalfEven (-n) (-d) := by
  unfold divRoundHalfEven
  simp only [h, if_true, not_lt_of_gt (neg_pos.mpr h), if_false]

/-- the second conjunct (floor ≤ result) is what makes the result non-negative for `n ≥ 0`
(`rhe_nonneg`) -/
theorem rhe_int (n d : Int) (hd : 0 < d) :
    2 * |divRoundHalfEven n d * d - n| ≤ d ∧ n / d ≤ divRoundHalfEven n d := by
  unfold divRoundHalfEven
  have h1 := Int.emod_add_mul_ediv n d
  have h2 := Int.emod_nonneg n hd.ne'
  have h3 := Int.emod_lt_of_pos n hd
  simp only [not_lt_of_gt hd, if_false]
  generalize n % d = r at *
  generalize n / d = q at *
  subst h1
  have e1 : q * d - (r + d * q) = -r := by ring
  have e2 : (q + 1) * d - (r + d * q) = d - r := by ring
  split_ifs with hr hc
  · rw [e1, abs_neg, abs_of_nonneg h2]; omega
  · rw [e2, abs_of_nonneg (by omega)]; omega
  · rw [e1, abs_neg, abs_of_nonneg h2]; omega

theorem rhe_bound (n d : Int) (hd : d ≠ 0) :
    |((divRoundHalfEven n d : Int) : ℚ) - (n : ℚ) / (d : ℚ)| ≤ 1 / 2 := by
  wlog h : 0 < d generalizing n d
  · have := this (-n) (-d) (by omega) (by omega)
    rwa [← divRoundHalfEven_of_neg _ _ (by omega), Int.cast_neg, Int.cast_neg, neg_div_neg_eq]
      at this
  have hq : (0 : ℚ) < d := Int.cast_pos.mpr h
  have hb := (Int.cast_le (R := ℚ)).mpr (rhe_int n d h).1
  push_cast at hb
  -- over the common denominator `d` the claim is `|r·d − n| ≤ ½·d`, which is `hb` halved
  rw [← mul_div_cancel_right₀ (divRoundHalfEven n d : ℚ) hq.ne', ← sub_div, abs_div, abs_of_pos hq,
    div_le_iff₀ hq]
  rw [one_div, inv_mul_eq_div, le_div_iff₀' two_pos]
  exact hb

theorem rhe_nonneg (n d : Int) (hn : 0 ≤ n) (hd : 0 < d) : 0 ≤ divRoundHalfEven n d :=
  (Int.ediv_nonneg hn hd.le).trans (rhe_int n d hd).2

/-- the same for the non-negative case, where the models take `.toNat` of the result -/
theorem rhe_toNat_bound (n d : Int) (hn : 0 ≤ n) (hd : 0 < d) :
    |(((divRoundHalfEven n d).toNat : ℕ) : ℚ) - (n : ℚ) / d| ≤ 1 / 2 := by
  rw [← Int.cast_natCast, Int.toNat_of_nonneg (rhe_nonneg n d hn hd)]
  exact rhe_bound n d hd.ne'

end Qty
