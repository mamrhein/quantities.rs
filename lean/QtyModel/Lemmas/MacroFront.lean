import QtyModel.Registry
/-
  The macro front end stage by stage: `enumFrom` and the position-tagged attribute lists that
  `declared` collects, `parseUnits` in terms of the plain attribute list, `parseArgs`, and `expand`
  as `declared`, then the stable sort, then `parseArgs` (core Lean only).  `declared` itself is
  characterised in `Props/C11.lean`, next to the predicates its specification is stated with.
-/
namespace Qty.MacroFront

theorem mem_enumFrom {α : Type} (l : List α) : ∀ (n j : Nat) (a : α),
    (j, a) ∈ enumFrom n l → n ≤ j ∧ l[j - n]? = some a := by
  induction l with
  | nil => intro n j a h; cases h
  | cons b l ih =>
    intro n j a h
    rcases List.mem_cons.mp h with h | h
    · cases h; simp
    · obtain ⟨h1, h2⟩ := ih (n + 1) j a h
      exact ⟨by omega, by rwa [show j - n = (j - (n + 1)) + 1 by omega, List.getElem?_cons_succ]⟩

theorem enumFrom_filter_map_snd {α : Type} (p : α → Bool) (l : List α) :
    ∀ n, ((enumFrom n l).filter (fun q => p q.2)).map (·.2) = l.filter p := by
  induction l with
  | nil => intro n; rfl
  | cons b l ih =>
    intro n
    simp only [enumFrom, List.filter_cons]
    cases p b <;> simp [ih]

theorem enumFrom_map_snd {α : Type} (l : List α) : ∀ n, (enumFrom n l).map (·.2) = l := fun n => by
  simpa [List.filter_eq_self.mpr] using enumFrom_filter_map_snd (fun _ => true) l n

/-- the attributes of kind `k` with their positions, as `declared` collects them -/
def attrsIx (k : AttrKind) (it : RawItem) : List (Nat × RawAttr) :=
  (enumFrom 0 it.attrs).filter (fun p => p.2.kind == k)

theorem attrsIx_map (k : AttrKind) (it : RawItem) :
    (attrsIx k it).map (·.2) = it.attrs.filter (fun a => a.kind == k) :=
  enumFrom_filter_map_snd (fun a : RawAttr => a.kind == k) it.attrs 0

theorem mem_attrsIx (k : AttrKind) (it : RawItem) (p : Nat × RawAttr) (h : p ∈ attrsIx k it) :
    it.attrs[p.1]? = some p.2 ∧ p.2.kind = k := by
  obtain ⟨h1, h2⟩ := List.mem_filter.mp h
  exact ⟨(mem_enumFrom it.attrs 0 p.1 p.2 h1).2, by simpa using h2⟩

/-- the condition `parseUnits` checks on one `#[unit]` attribute -/
def unitAttrOk (withRef : Bool) (a : RawAttr) : Bool :=
  match parseUnit a.toks with
  | some u => if withRef then u.scale.isSome else u.scale.isNone && u.pfx.isNone
  | none => false

theorem parseUnits_cons (w : Bool) (i : Nat) (a : RawAttr) (l : List (Nat × RawAttr)) :
    if unitAttrOk w a then
      ∃ u, parseUnit a.toks = some u ∧ parseUnits w ((i, a) :: l) = (parseUnits w l).map (u :: ·)
    else ∃ msg, parseUnits w ((i, a) :: l) = .error ⟨.attr i, msg⟩ := by
  rw [parseUnits, unitAttrOk]
  cases parseUnit a.toks with
  | none => exact ⟨_, rfl⟩
  | some u =>
    obtain ⟨_, _, _, pfx, scale, _⟩ := u
    cases w <;> cases scale <;> cases pfx <;> simp

/-- `parseUnits` succeeds iff every attribute passes the check of its mode, and then returns the
parsed attributes in order; otherwise the error is reported at an attribute that fails it -/
theorem parseUnits_spec (w : Bool) (l : List (Nat × RawAttr)) :
    ((l.map (·.2)).all (unitAttrOk w) = true ∧
      parseUnits w l = .ok ((l.map (·.2)).filterMap (fun a => parseUnit a.toks)) ∧
      ((l.map (·.2)).filterMap (fun a => parseUnit a.toks)).length = (l.map (·.2)).length) ∨
    (∃ p ∈ l, unitAttrOk w p.2 = false ∧ ∃ msg, parseUnits w l = .error ⟨.attr p.1, msg⟩) := by
  induction l with
  | nil => exact .inl ⟨rfl, rfl, rfl⟩
  | cons p l ih =>
    have hc := parseUnits_cons w p.1 p.2 l
    cases hok : unitAttrOk w p.2 with
    | false => exact .inr ⟨p, .head _, hok, by simpa [hok] using hc⟩
    | true =>
      obtain ⟨u, hp, hc⟩ := by simpa [hok] using hc
      rcases ih with ⟨h1, h2, h3⟩ | ⟨q, hq, h1, msg, h2⟩
      · simp only [List.map_cons, List.all_cons, List.filterMap_cons, hp, List.length_cons]
        exact .inl ⟨by rw [hok, h1]; rfl, by rw [hc, h2]; rfl, by rw [h3]⟩
      · exact .inr ⟨q, .tail _ hq, h1, msg, by rw [hc, h2]; rfl⟩

theorem expand_eq (it : RawItem) : expand it =
    match declared it with
    | .error e => .error e
    | .ok dc =>
      match parseArgs it.args with
      | .error e => .error e
      | .ok dv => .ok { name := it.name, derived := dv, refIdent := dc.refIdent
                        units := isort (orderOf dc) dc.units } := by
  unfold expand analyze
  cases declared it with
  | error e => rfl
  | ok dc => cases parseArgs it.args <;> rfl

theorem expand_error_of_declared (it : RawItem) (e : MacroErr) (h : declared it = .error e) :
    expand it = .error e := by
  rw [expand_eq, h]

theorem expand_ok_inv (it : RawItem) (d : QtyDef) (h : expand it = .ok d) :
    ∃ dc dv, declared it = .ok dc ∧ parseArgs it.args = .ok dv ∧
      d = { name := it.name, derived := dv, refIdent := dc.refIdent
            units := isort (orderOf dc) dc.units } := by
  rw [expand_eq] at h
  split at h
  · cases h
  · split at h
    · cases h
    · exact ⟨_, _, ‹_›, ‹_›, (Except.ok.inj h).symm⟩

/-- `parse_args` accepts nothing, `A * B` and `A / B`, and reports everything else at the arguments -/
theorem parseArgs_cases (args : List Tok) :
    (∃ dv, parseArgs args = .ok dv ∧ (args = [] ∨
      ∃ a b, args = [.ident a, .punct 42, .ident b] ∨ args = [.ident a, .punct 47, .ident b])) ∨
    ∃ msg, parseArgs args = .error ⟨.args, msg⟩ := by
  unfold parseArgs
  split
  · exact .inl ⟨_, rfl, .inl rfl⟩
  · split
    · next h => subst h; exact .inl ⟨_, rfl, .inr ⟨_, _, .inl rfl⟩⟩
    · split
      · next h => subst h; exact .inl ⟨_, rfl, .inr ⟨_, _, .inr rfl⟩⟩
      · exact .inr ⟨_, rfl⟩
  · exact .inr ⟨_, rfl⟩

end Qty.MacroFront
