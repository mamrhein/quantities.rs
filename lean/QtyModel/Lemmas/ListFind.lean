import QtyModel.Registry
/-
  Generic list facts: keyed lookup (`List.find?`), a few about `all`, `filter` and `Pairwise`, and
  the stable insertion sort `insertBy` / `isort` of the model of `analyze` (`Registry.lean`); the
  proofs use core Lean only.
-/
namespace Qty

theorem find_key_iff {α κ : Type} [BEq κ] [LawfulBEq κ] {rows : List α} {key : α → κ}
    (h : (rows.map key).Nodup) (k : κ) (r : α) :
    rows.find? (fun x => key x == k) = some r ↔ r ∈ rows ∧ key r = k := by
  induction rows with
  | nil => simp
  | cons a as ih =>
    obtain ⟨ha, has⟩ := List.nodup_cons.mp h
    rw [List.find?_cons, List.mem_cons]
    by_cases hk : key a = k
    · have : ∀ x ∈ as, key x ≠ k := fun x hx e => ha (List.mem_map.mpr ⟨x, hx, e.trans hk.symm⟩)
      simp only [hk, beq_self_eq_true, Option.some.injEq]
      exact ⟨fun e => e ▸ ⟨.inl rfl, hk⟩, fun ⟨hm, hr⟩ => (hm.resolve_right fun hx => this r hx hr).symm⟩
    · simp only [beq_eq_false_iff_ne.mpr hk, ih has]
      exact ⟨fun ⟨hm, hr⟩ => ⟨.inr hm, hr⟩, fun ⟨hm, hr⟩ => ⟨hm.resolve_left fun e => hk (e ▸ hr), hr⟩⟩

theorem key_inj_of_nodup {α κ : Type} [BEq κ] [LawfulBEq κ] {rows : List α} {key : α → κ}
    (h : (rows.map key).Nodup) {x y : α} (hx : x ∈ rows) (hy : y ∈ rows) (e : key x = key y) :
    x = y :=
  Option.some.inj (((find_key_iff h _ x).mpr ⟨hx, e⟩).symm.trans
    ((find_key_iff h _ y).mpr ⟨hy, rfl⟩))

/-- lookup in the rows `(key r, val r)` of a table is `find?` on the rows, then `val` (the semantics
of a Rust `match` on literal patterns, `SIPrefix.assoc` and `AlgoTie.armLookup`) -/
theorem find_map_pair {α κ β : Type} [BEq κ] (rows : List α) (key : α → κ) (val : α → β) (k : κ) :
    ((rows.map (fun r => (key r, val r))).find? (fun a => a.1 == k)).map (·.2) =
      (rows.find? (fun x => key x == k)).map val := by
  rw [List.find?_map, Option.map_map]
  rfl

theorem all_and {α : Type} {l : List α} {p q : α → Bool} (h : l.all (fun x => p x && q x) = true) :
    l.all p = true ∧ l.all q = true := by
  simp only [List.all_eq_true, Bool.and_eq_true] at h ⊢
  exact ⟨fun x hx => (h x hx).1, fun x hx => (h x hx).2⟩

/-- the last element of a filtered `rel`-sorted list is `rel`-above every other element that
passes the filter -/
theorem getLast?_filter_pairwise {α : Type} (rel : α → α → Prop) (p : α → Bool) (l : List α)
    (hl : l.Pairwise rel) (w : α) (hw : (l.filter p).getLast? = some w) :
    w ∈ l ∧ p w = true ∧ ∀ v ∈ l, p v = true → v = w ∨ rel v w := by
  have hmem : w ∈ l.filter p := List.mem_of_getLast? hw
  rw [List.mem_filter] at hmem
  refine ⟨hmem.1, hmem.2, ?_⟩
  intro v hv hpv
  obtain ⟨ys, hys⟩ := List.getLast?_eq_some_iff.mp hw
  have hpw : (l.filter p).Pairwise rel := hl.sublist List.filter_sublist
  rw [hys, List.pairwise_append] at hpw
  have hvm : v ∈ l.filter p := List.mem_filter.mpr ⟨hv, hpv⟩
  rw [hys, List.mem_append] at hvm
  rcases hvm with hvm | hvm
  · exact Or.inr (hpw.2.2 v hvm w (by simp))
  · exact Or.inl (by simpa using hvm)

section sort
open MacroFront
variable {α : Type} (le : α → α → Bool)

/-- the new element goes in behind a prefix of elements it is not `≤` to; no property of `le` is
needed -/
theorem insertBy_split (a : α) (l : List α) :
    ∃ pre post, l = pre ++ post ∧ insertBy le a l = pre ++ a :: post ∧
      ∀ x ∈ pre, le a x = false := by
  induction l with
  | nil => exact ⟨[], [], rfl, rfl, nofun⟩
  | cons b l ih =>
    unfold insertBy
    split
    · exact ⟨[], b :: l, rfl, rfl, nofun⟩
    · next hab =>
      obtain ⟨pre, post, h1, h2, h3⟩ := ih
      exact ⟨b :: pre, post, by rw [h1]; rfl, by rw [h2]; rfl,
        List.forall_mem_cons.mpr ⟨Bool.eq_false_iff.mpr hab, h3⟩⟩

theorem insertBy_perm (a : α) (l : List α) : (insertBy le a l).Perm (a :: l) := by
  obtain ⟨pre, post, rfl, h2, -⟩ := insertBy_split le a l
  exact h2 ▸ List.perm_middle

/-- the sort only permutes -/
theorem isort_perm (l : List α) : (isort le l).Perm l := by
  induction l with
  | nil => exact .refl _
  | cons a l ih => exact (insertBy_perm le a _).trans (ih.cons a)

theorem mem_insertBy (a x : α) (l : List α) : x ∈ insertBy le a l ↔ x = a ∨ x ∈ l := by
  rw [(insertBy_perm le a l).mem_iff, List.mem_cons]

/-- totality and transitivity are only needed on a class `P` of elements that contains the list
and the inserted element (`keyLe` is a total preorder only on units that carry a scale) -/
theorem insertBy_sorted_on (P : α → Prop)
    (htot : ∀ a b, P a → P b → le a b = true ∨ le b a = true)
    (htr : ∀ a b c, P a → P b → P c → le a b = true → le b c = true → le a c = true)
    (a : α) (ha : P a) (l : List α) (hl : ∀ x ∈ l, P x)
    (h : l.Pairwise (fun x y => le x y = true)) :
    (insertBy le a l).Pairwise (fun x y => le x y = true) := by
  induction l with
  | nil => simp [insertBy]
  | cons b l ih =>
    obtain ⟨hb, hl'⟩ := List.forall_mem_cons.mp hl
    obtain ⟨hbl, hs⟩ := List.pairwise_cons.mp h
    unfold insertBy
    split
    · next hab =>
      refine List.pairwise_cons.mpr ⟨fun x hx => ?_, h⟩
      rcases List.mem_cons.mp hx with rfl | hx
      · exact hab
      · exact htr _ _ _ ha hb (hl' x hx) hab (hbl x hx)
    · next hab =>
      refine List.pairwise_cons.mpr ⟨fun x hx => ?_, ih hl' hs⟩
      rcases (mem_insertBy le a x l).mp hx with rfl | hx
      · exact (htot _ _ ha hb).resolve_left hab
      · exact hbl x hx

theorem isort_sorted_on (P : α → Prop)
    (htot : ∀ a b, P a → P b → le a b = true ∨ le b a = true)
    (htr : ∀ a b c, P a → P b → P c → le a b = true → le b c = true → le a c = true)
    (l : List α) (hl : ∀ x ∈ l, P x) :
    (isort le l).Pairwise (fun x y => le x y = true) := by
  induction l with
  | nil => exact .nil
  | cons a l ih =>
    obtain ⟨ha, hl'⟩ := List.forall_mem_cons.mp hl
    exact insertBy_sorted_on le P htot htr a ha _
      (fun x hx => hl' x ((isort_perm le l).mem_iff.mp hx)) (ih hl')

/-- if `a ≤ b` for every `b` of `l` that lies in the class `p` together with `a`, inserting `a`
leaves the members of `p` in their order -/
theorem insertBy_filter (p : α → Bool) (a : α) (l : List α)
    (hp : ∀ b ∈ l, p a = true → p b = true → le a b = true) :
    (insertBy le a l).filter p = (a :: l).filter p := by
  obtain ⟨pre, post, rfl, h2, h3⟩ := insertBy_split le a l
  rw [h2, List.filter_append, List.filter_cons, List.filter_cons, List.filter_append]
  cases hpa : p a
  · rfl
  · -- what `a` passes is not in its class
    rw [List.filter_eq_nil_iff.mpr fun x hx hpx =>
      Bool.false_ne_true ((h3 x hx).symm.trans (hp x (List.mem_append_left _ hx) hpa hpx))]
    rfl

/-- stability: a class `p` of elements whose members the order never puts strictly after a later
member is listed in its original order -/
theorem isort_filter (p : α → Bool) (l : List α)
    (hp : l.Pairwise (fun a b => p a = true → p b = true → le a b = true)) :
    (isort le l).filter p = l.filter p := by
  induction l with
  | nil => rfl
  | cons a l ih =>
    obtain ⟨ha, hl⟩ := List.pairwise_cons.mp hp
    rw [isort, insertBy_filter le p a _ fun b hb => ha b ((isort_perm le l).mem_iff.mp hb),
      List.filter_cons, ih hl, ← List.filter_cons]

end sort
end Qty
