import QtyModel.Lemmas.F64Laws
/-
  Canonical binary64 data: `F64.ofBits` returns them (`ofBits_canonical`), so does `F64.round` on
  positive rationals (`round_pos_cases`); they are determined by their value, and `round` is
  monotone on the positive rationals (so what rounds to a given double is an interval).
  `Canonical` is in namespace `C15F64`: the C15 and C17 statements name it.
-/
namespace Qty.C15F64
open Qty.F64

/-- the canonical representation of binary64 values (what `ofBits` and `round` produce):
subnormals and zeros as `m · 2^-1074` with `m < 2^52`, normal numbers with `2^52 ≤ m < 2^53` -/
def Canonical : F64 → Prop
  | .fin _ m e => (m < two52 ∧ e = eMin) ∨ (two52 ≤ m ∧ m < two53 ∧ eMin ≤ e ∧ e ≤ eMax)
  | _ => True

theorem canonical_iff {s : Bool} {m : ℕ} {e : ℤ} :
    Canonical (.fin s m e) ↔ m < two53 ∧ eMin ≤ e ∧ e ≤ eMax ∧ (e = eMin ∨ two52 ≤ m) := by
  have h52 := two52_eq
  have h53 := two53_eq
  simp only [Canonical, eMin, eMax]
  omega

theorem ofBits_canonical (b : Nat) : Canonical (ofBits b) := by
  cases h : ofBits b with
  | fin s m e => exact ofBits_fin h
  | inf s => trivial
  | nan => trivial

theorem canonical_inj {s1 s2 : Bool} {m1 m2 : ℕ} {e1 e2 : ℤ} (h1 : Canonical (.fin s1 m1 e1))
    (h2 : Canonical (.fin s2 m2 e2)) (hv : (m1 : ℚ) * 2 ^ e1 = (m2 : ℚ) * 2 ^ e2) :
    m1 = m2 ∧ e1 = e2 := by
  wlog hle : e1 ≤ e2 generalizing s1 s2 m1 m2 e1 e2
  · obtain ⟨a, b⟩ := this h2 h1 hv.symm (le_of_not_ge hle); exact ⟨a.symm, b.symm⟩
  rcases lt_or_eq_of_le hle with hlt | rfl
  · -- the larger exponent is not minimal, so its mantissa is normalised: `m1·2^e1 < 2^(53+e1) ≤ m2·2^e2`
    exfalso
    obtain ⟨a1, b1, -, -⟩ := canonical_iff.mp h1
    obtain ⟨-, -, -, d2⟩ := canonical_iff.mp h2
    have l2 : (2 : ℚ) ^ (52 + e2) ≤ m2 * 2 ^ e2 := by
      rw [P_add]
      exact mul_le_mul_of_nonneg_right (two52_le_cast (d2.resolve_left (by omega))) (P_pos _).le
    exact absurd ((mul_P_lt a1 e1).trans_le ((P_le (by omega)).trans l2)) (hv ▸ lt_irrefl _)
  · exact ⟨by exact_mod_cast mul_right_cancel₀ (P_pos e1).ne' hv, rfl⟩

/-- `round_cases` for a positive rational -/
theorem round_pos_cases (q : ℚ) (b : Bool) (hq : 0 < q) (hlt : q < 2 ^ (1024 : ℤ)) :
    (round q b = .inf false ∧ (2 : ℚ) ^ (1024 : ℤ) ≤ roundMag q) ∨
    (∃ m e, round q b = .fin false m e ∧ Canonical (.fin false m e) ∧ (m : ℚ) * 2 ^ e = roundMag q ∧
      roundMag q < 2 ^ (1024 : ℤ)) := by
  have := round_cases q b hq.ne' (by rwa [abs_of_pos hq])
  rw [abs_of_pos hq, decide_eq_false (not_lt.mpr hq.le)] at this
  exact this.imp id fun ⟨m, e, hr, h1, h2, h3, h4, hv⟩ =>
    ⟨m, e, hr, canonical_iff.mpr ⟨h1, h2, h3, h4⟩, hv⟩

theorem roundMag_mono {a b : ℚ} (ha : 0 < a) (hab : a ≤ b) (hb : b < 2 ^ (1024 : ℤ)) :
    roundMag a ≤ roundMag b := by
  have hb0 := lt_of_lt_of_le ha hab
  have hle := rexp_mono ha hab
  obtain ⟨a1, -, a3, -, -⟩ := rexp_spec a ha (lt_of_le_of_lt hab hb)
  have hxa0 : 0 ≤ a / 2 ^ rexp a := div_nonneg ha.le (P_pos _).le
  unfold roundMag
  rcases lt_or_eq_of_le hle with hlt | heq
  · -- a lower binade: at most `2^53 · 2^rexp a ≤ 2^52 · 2^rexp b`, which `b` reaches
    have k1 : (roundHalfEvenRat (a / 2 ^ rexp a) : ℚ) ≤ 2 ^ (53 : ℤ) :=
      (Nat.cast_le.mpr (rne_le_two53 _ hxa0 a3)).trans_eq two53_cast
    have k2 := two52_le_cast (rne_ge_two52 b hb0 hb (by omega))
    calc (roundHalfEvenRat (a / 2 ^ rexp a) : ℚ) * 2 ^ rexp a
        ≤ 2 ^ (53 : ℤ) * 2 ^ rexp a := mul_le_mul_of_nonneg_right k1 (P_pos _).le
      _ = 2 ^ (53 + rexp a) := (P_add _ _).symm
      _ ≤ 2 ^ (52 + rexp b) := P_le (by omega)
      _ = 2 ^ (52 : ℤ) * 2 ^ rexp b := P_add _ _
      _ ≤ roundHalfEvenRat (b / 2 ^ rexp b) * 2 ^ rexp b :=
        mul_le_mul_of_nonneg_right k2 (P_pos _).le
  · rw [heq]
    apply mul_le_mul_of_nonneg_right _ (P_pos _).le
    rw [heq] at hxa0
    exact_mod_cast rne_mono hxa0 (div_le_div_of_nonneg_right hab (P_pos _).le)

/-- `round` is monotone: between two positive rationals with the same rounding everything
rounds the same way -/
theorem round_sandwich {a b c : ℚ} (z : Bool) (ha : 0 < a) (hab : a ≤ b) (hbc : b ≤ c)
    (hc : c < 2 ^ (1024 : ℤ)) (h : round a z = round c z) : round b z = round a z := by
  have hb0 := lt_of_lt_of_le ha hab
  have hb : b < 2 ^ (1024 : ℤ) := lt_of_le_of_lt hbc hc
  have m1 := roundMag_mono ha hab hb
  have m2 := roundMag_mono hb0 hbc hc
  rcases round_pos_cases a z ha (lt_of_le_of_lt hab hb) with ⟨ra, va⟩ | ⟨ma, ea, ra, ca, va, va'⟩
  · rcases round_pos_cases b z hb0 hb with ⟨rb, vb⟩ | ⟨mb, eb, rb, cb, vb, vb'⟩
    · rw [ra, rb]
    · exact absurd (va.trans m1) (not_le.mpr vb')
  · rcases round_pos_cases c z (lt_of_lt_of_le hb0 hbc) hc with ⟨rc, vc⟩ | ⟨mc, ec, rc, cc, vc, vc'⟩
    · rw [ra, rc] at h; cases h
    · rw [ra, rc] at h
      injection h with _ hm he
      subst hm; subst he
      -- squeezed between equal magnitudes; a canonical datum is determined by its value
      have hv : roundMag b = roundMag a := le_antisymm (by rw [← va, vc]; exact m2) m1
      rcases round_pos_cases b z hb0 hb with ⟨rb, vb⟩ | ⟨mb, eb, rb, cb, vb, vb'⟩
      · exact absurd (hv ▸ vb) (not_le.mpr va')
      · obtain ⟨e1, e2⟩ := canonical_inj cb ca (by rw [vb, va, hv])
        rw [ra, rb, e1, e2]

/-- the magnitude of a canonical datum rounds to it: `round` keeps the value of a double and returns
canonical data, and canonical data with one value are one -/
theorem round_mag_canonical {s : Bool} {m : ℕ} {e : ℤ} (hc : Canonical (.fin s m e)) :
    round ((m : ℚ) * 2 ^ e) false = .fin false m e := by
  obtain ⟨hm, h1, h2, hn⟩ := canonical_iff.mp hc
  by_cases hm0 : m = 0
  · subst hm0
    obtain rfl : e = eMin := hn.resolve_right (by decide)
    rw [Nat.cast_zero, zero_mul, round_zero]
  · have hv := round_exact' false m e false hm h1 h2
    rw [tr_false] at hv
    rcases round_pos_cases _ false (mul_P_pos hm0 e) (mul_P_lt_top hm h2) with ⟨hr, -⟩ | ⟨m', e', hr, hc', -, -⟩
    · rw [hr, val_inf] at hv; cases hv
    · rw [hr] at hv ⊢
      obtain ⟨h1', h2', h3', -⟩ := canonical_iff.mp hc'
      rw [val_fin _ _ _ h1' h2' h3', tr_false] at hv
      obtain ⟨rfl, rfl⟩ := canonical_inj hc' hc (Option.some.inj hv)
      rfl

end Qty.C15F64
