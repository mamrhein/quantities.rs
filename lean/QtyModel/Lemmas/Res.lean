import QtyModel.Ops
/-
  The result monad `Res = Except Panic` as the proofs use it, and the equations of the trait
  algorithms of `Ops.lean` in terms of `>>=` and `Except.map`, so that no proof has to unfold
  `bind`/`pure` or a `do` block again.  Core Lean only.
-/
namespace Qty

namespace Res
variable {ε α β : Type}

@[simp] theorem ok_bind (a : α) (f : α → Except ε β) : (Except.ok a >>= f) = f a := rfl
@[simp] theorem error_bind (e : ε) (f : α → Except ε β) : (Except.error e >>= f) = .error e := rfl
@[simp] theorem map_ok (f : α → β) (a : α) : (Except.ok a : Except ε α).map f = .ok (f a) := rfl
@[simp] theorem map_error (f : α → β) (e : ε) : (Except.error e : Except ε α).map f = .error e := rfl

theorem bind_pure_eq_map (x : Except ε α) (f : α → β) : (x >>= fun a => pure (f a)) = x.map f := by
  cases x <;> rfl

theorem bind_eq_ok {x : Except ε α} {f : α → Except ε β} {b : β} :
    (x >>= f) = .ok b ↔ ∃ a, x = .ok a ∧ f a = .ok b := by
  cases x <;> simp

theorem map_eq_ok {x : Except ε α} {f : α → β} {b : β} :
    x.map f = .ok b ↔ ∃ a, x = .ok a ∧ f a = b := by
  cases x <;> simp

theorem map_eq_error {x : Except ε α} {f : α → β} {e : ε} : x.map f = .error e ↔ x = .error e := by
  cases x <;> simp

theorem exists_ok_bind {x : Except ε α} {f : α → Except ε β} (hx : ∃ a, x = .ok a)
    (hf : ∀ a, ∃ b, f a = .ok b) : ∃ b, (x >>= f) = .ok b := by
  obtain ⟨a, rfl⟩ := hx
  exact hf a

theorem exists_ok_map {x : Except ε α} (f : α → β) (hx : ∃ a, x = .ok a) : ∃ b, x.map f = .ok b := by
  obtain ⟨a, rfl⟩ := hx
  exact ⟨_, rfl⟩

end Res

variable {A U V W : Type} (R : Arith A)

theorem Res.unit_of_map_eq_ok {x : Res A} {u : U} {r : Q A U} (h : x.map (⟨·, u⟩) = .ok r) :
    r.unit = u := by
  obtain ⟨_, -, rfl⟩ := Res.map_eq_ok.mp h
  rfl

theorem smul_eq (k : A) (q : Q A U) : smul R k q = (R.mul k q.amount).map (⟨·, q.unit⟩) :=
  Res.bind_pure_eq_map ..
theorem muls_eq (q : Q A U) (k : A) : muls R q k = (R.mul q.amount k).map (⟨·, q.unit⟩) :=
  Res.bind_pure_eq_map ..
theorem sdiv_eq (q : Q A U) (k : A) : sdiv R q k = (R.div q.amount k).map (⟨·, q.unit⟩) :=
  Res.bind_pure_eq_map ..

section fit
variable (T : QT A U)

/-- the unit `_fit` chooses when the eligible units are `first :: rest`: the last unit of `rest`
whose scale lies above `first`'s and not above the magnitude `x`, else `first` -/
def fitUnit (first : U) (rest : List U) (x : A) : U :=
  (rest.filter fun u => R.gt (T.scale u) (T.scale first) && R.le (T.scale u) x).getLast?.getD first

theorem fitUnit_mem (first : U) (rest : List U) (x : A) :
    fitUnit R T first rest x ∈ first :: rest := by
  unfold fitUnit
  cases h : (rest.filter fun u => R.gt (T.scale u) (T.scale first) && R.le (T.scale u) x).getLast? with
  | none => exact List.mem_cons_self
  | some v => exact List.mem_cons_of_mem _ (List.mem_filter.mp (List.mem_of_getLast? h)).1

theorem fit_eq (hI : T.fitIdentity = none) {first : U} {rest : List U}
    (he : eligible T = first :: rest) (x : A) :
    fit R T x =
      (R.div x (T.scale (fitUnit R T first rest x))).map (⟨·, fitUnit R T first rest x⟩) := by
  unfold fit
  rw [hI, he]
  exact Res.bind_pure_eq_map ..

end fit

/-- what the generated `Mul`/`Div` bodies do once the scale `s` of the natural unit is known;
`pa` is the product / quotient of the operand amounts.  Only this file names it: proofs use
`derivedOp_natural` / `derivedOp_fitted`. -/
def derivedTail (TO : QT A W) (s : A) (pa : Res A) : Res (Q A W) :=
  match unitFromScale R TO s with
  | some u => pa.map (⟨·, u⟩)
  | none => pa >>= fun p => R.mul p s >>= fit R TO

/-- the generated `Mul` (`op = R.mul`) and `Div` (`op = R.div`) bodies -/
def derivedOp (op : A → A → Res A) (TL : QT A U) (TR : QT A V) (TO : QT A W)
    (l : Q A U) (r : Q A V) : Res (Q A W) :=
  op (TL.scale l.unit) (TR.scale r.unit) >>= fun s => derivedTail R TO s (op l.amount r.amount)

theorem derivedTail_eq (TO : QT A W) (s : A) (pa : Res A) :
    (match unitFromScale R TO s with
      | some u => (do return ⟨← pa, u⟩ : Res (Q A W))
      | none => (do fit R TO (← R.mul (← pa) s))) = derivedTail R TO s pa := by
  unfold derivedTail
  split
  · exact Res.bind_pure_eq_map ..
  · rfl

variable {R} in
/-- natural unit: some unit of the result quantity has the scale `s` the operand scales combine to -/
theorem derivedOp_natural {op : A → A → Res A} {TL : QT A U} {TR : QT A V} {TO : QT A W}
    {l : Q A U} {r : Q A V} {s : A} {w : W}
    (hs : op (TL.scale l.unit) (TR.scale r.unit) = .ok s) (hw : unitFromScale R TO s = some w) :
    derivedOp R op TL TR TO l r = (op l.amount r.amount).map (⟨·, w⟩) := by
  simp only [derivedOp, hs, Res.ok_bind, derivedTail, hw]

variable {R} in
/-- otherwise the product with `s` is the magnitude in the reference unit, which `_fit` gets -/
theorem derivedOp_fitted {op : A → A → Res A} {TL : QT A U} {TR : QT A V} {TO : QT A W}
    {l : Q A U} {r : Q A V} {s : A}
    (hs : op (TL.scale l.unit) (TR.scale r.unit) = .ok s) (hw : unitFromScale R TO s = none) :
    derivedOp R op TL TR TO l r = op l.amount r.amount >>= fun p => R.mul p s >>= fit R TO := by
  simp only [derivedOp, hs, Res.ok_bind, derivedTail, hw]

theorem dmul_eq (TL : QT A U) (TR : QT A V) (TO : QT A W) (l : Q A U) (r : Q A V) :
    dmul R TL TR TO l r = derivedOp R R.mul TL TR TO l r := by
  unfold dmul derivedOp
  exact congrArg _ (funext fun s => derivedTail_eq R TO s _)

theorem ddiv_eq (TL : QT A U) (TR : QT A V) (TO : QT A W) (l : Q A U) (r : Q A V) :
    ddiv R TL TR TO l r = derivedOp R R.div TL TR TO l r := by
  unfold ddiv derivedOp
  exact congrArg _ (funext fun s => derivedTail_eq R TO s _)

variable [DecidableEq U] (T : QT A U)

@[simp] theorem equivAmount_self (q : Q A U) : equivAmount R T q q.unit = .ok q.amount := if_pos rfl

theorem equivAmount_of_ne {q : Q A U} {u : U} (h : q.unit ≠ u) :
    equivAmount R T q u = R.div (T.scale q.unit) (T.scale u) >>= (R.mul · q.amount) := if_neg h

theorem convert_eq (q : Q A U) (u : U) : convert R T q u = (equivAmount R T q u).map (⟨·, u⟩) :=
  Res.bind_pure_eq_map ..

/-- `a + b` and `a - b` (`op` = the amount type's `+` or `-`): `b` is converted into `a`'s unit -/
def hrAddSub (op : A → A → Res A) (a b : Q A U) : Res (Q A U) :=
  (equivAmount R T b a.unit >>= op a.amount).map (⟨·, a.unit⟩)

theorem hrAddSub_do (op : A → A → Res A) (a b : Q A U) :
    (do return ⟨← op a.amount (← equivAmount R T b a.unit), a.unit⟩ : Res (Q A U))
      = hrAddSub R T op a b := by
  unfold hrAddSub
  cases equivAmount R T b a.unit with
  | error e => rfl
  | ok v => exact Res.bind_pure_eq_map ..

theorem hrAdd_eq (a b : Q A U) : hrAdd R T a b = hrAddSub R T R.add a b := hrAddSub_do R T R.add a b
theorem hrSub_eq (a b : Q A U) : hrSub R T a b = hrAddSub R T R.sub a b := hrAddSub_do R T R.sub a b

/-- `C03.addsub_mag` and the oracle `c03addsub` choose the operator by `if isSub`;
`Laws.addsub_le` has the same form -/
theorem hrAddSub_ite (isSub : Bool) (a b : Q A U) :
    (if isSub then hrSub R T a b else hrAdd R T a b)
      = hrAddSub R T (fun p q => if isSub then R.sub p q else R.add p q) a b := by
  cases isSub
  · exact hrAdd_eq R T a b
  · exact hrSub_eq R T a b

theorem hrAddSub_unit {op : A → A → Res A} {a b r : Q A U} (h : hrAddSub R T op a b = .ok r) :
    r.unit = a.unit :=
  Res.unit_of_map_eq_ok h

theorem hrAddSub_same_unit (op : A → A → Res A) {a b : Q A U} (h : b.unit = a.unit) :
    hrAddSub R T op a b = (op a.amount b.amount).map (⟨·, a.unit⟩) := by
  rw [hrAddSub, ← h, equivAmount_self]
  rfl

/-- the two amounts `HasRefUnit::eq` and `partial_cmp` hand to the amount type's comparison: the
operand whose unit has the larger scale is converted into the other operand's unit -/
def cmpPair (a b : Q A U) : Res (A × A) :=
  if R.le (T.scale a.unit) (T.scale b.unit) then (equivAmount R T b a.unit).map (a.amount, ·)
  else (equivAmount R T a b.unit).map (·, b.amount)

variable {R T} in
theorem cmpPair_of_le {a b : Q A U} (h : R.le (T.scale a.unit) (T.scale b.unit) = true) :
    cmpPair R T a b = (equivAmount R T b a.unit).map (a.amount, ·) := if_pos h

variable {R T} in
theorem cmpPair_of_not_le {a b : Q A U} (h : ¬ R.le (T.scale a.unit) (T.scale b.unit) = true) :
    cmpPair R T a b = (equivAmount R T a b.unit).map (·, b.amount) := if_neg h

theorem cmpPair_same_unit {a b : Q A U} (h : a.unit = b.unit) :
    cmpPair R T a b = .ok (a.amount, b.amount) := by
  unfold cmpPair
  split
  · rw [h, equivAmount_self]; rfl
  · rw [← h, equivAmount_self]; rfl

theorem hrEq_eq (a b : Q A U) : hrEq R T a b = (cmpPair R T a b).map fun p => R.beq p.1 p.2 := by
  unfold hrEq cmpPair
  split
  · cases equivAmount R T b a.unit <;> rfl
  · cases equivAmount R T a b.unit <;> rfl

theorem hrPcmp_eq (a b : Q A U) :
    hrPcmp R T a b = (cmpPair R T a b).map fun p => R.pcmp p.1 p.2 := by
  by_cases h : a.unit = b.unit
  · rw [cmpPair_same_unit R T h, hrPcmp, if_pos h]; rfl
  · unfold hrPcmp cmpPair
    rw [if_neg h]
    split
    · cases equivAmount R T b a.unit <;> rfl
    · cases equivAmount R T a b.unit <;> rfl

theorem hrDiv_eq (a b : Q A U) : hrDiv R T a b = equivAmount R T b a.unit >>= R.div a.amount := rfl

end Qty
