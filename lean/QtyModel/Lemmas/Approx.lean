import QtyModel.Lemmas.Basic
/-
  Soundness of the error-propagation calculus `Approx` (Oracle.lean) with respect
  to any arithmetic satisfying `Laws`.
-/
namespace Qty

variable {A : Type} (R : Arith A)

/-- the amount `a` is a computed value of the expression described by `x`:
finite, and within `x.err` of the exact value `x.v` -/
def Realises (a : A) (x : Approx) : Prop := ∃ z, R.val a = some z ∧ |z - x.v| ≤ x.err

theorem exact_sound {a : A} {q : Rat} (h : R.val a = some q) : Realises R a (Approx.exact q) :=
  ⟨q, h, by simp [Approx.exact]⟩

variable {R} in
theorem Realises.err_nonneg {a : A} {x : Approx} (h : Realises R a x) : 0 ≤ x.err :=
  let ⟨_, _, hz⟩ := h; (abs_nonneg _).trans hz

theorem mul_v {M : ErrModel} (x y : Approx) : (Approx.mul M x y).v = x.v * y.v := rfl

theorem add_v {M : ErrModel} (x y : Approx) : (Approx.add M x y).v = x.v + y.v := rfl

theorem mul_ok_left {M : ErrModel} (x y : Approx) (h : (Approx.mul M x y).ok = true) : x.ok = true := by
  simp only [Approx.mul, Bool.and_eq_true] at h
  exact h.1.1

theorem mul_ok_right {M : ErrModel} (x y : Approx) (h : (Approx.mul M x y).ok = true) : y.ok = true := by
  simp only [Approx.mul, Bool.and_eq_true] at h
  exact h.1.2

theorem add_ok_left {M : ErrModel} (x y : Approx) (h : (Approx.add M x y).ok = true) : x.ok = true := by
  simp only [Approx.add, Bool.and_eq_true] at h
  exact h.1.1.1.1

theorem add_ok_right {M : ErrModel} (x y : Approx) (h : (Approx.add M x y).ok = true) : y.ok = true := by
  simp only [Approx.add, Bool.and_eq_true] at h
  exact h.1.1.1.2

/-- `Approx.div` answers exactly when the divisor is told apart from zero, and then with these
three components (`perr` the propagated error before the final rounding) -/
theorem div_eq_some {M : ErrModel} {x y w : Approx} (hd : Approx.div M x y = some w) :
    y.err < |y.v| ∧ w.v = x.v / y.v ∧
      (let perr := (|x.v| * y.err + |y.v| * x.err) / (|y.v| * (|y.v| - y.err))
       w.err = perr + M.E (|x.v / y.v| + perr) ∧
       w.ok = (x.ok && y.ok && M.safe (|x.v / y.v| + perr + M.E (|x.v / y.v| + perr)))) := by
  unfold Approx.div at hd
  split at hd
  · cases hd
  · next hlo =>
    cases hd
    refine ⟨by simpa only [ratAbs_eq_abs] using not_le.mp hlo, rfl, ?_⟩
    simp only [ratAbs_eq_abs, and_self]

theorem div_v {M : ErrModel} {x y w : Approx} (hd : Approx.div M x y = some w) : w.v = x.v / y.v :=
  (div_eq_some hd).2.1

theorem div_ok_left {M : ErrModel} {x y w : Approx} (hd : Approx.div M x y = some w)
    (h : w.ok = true) : x.ok = true := by
  rw [(div_eq_some hd).2.2.2, Bool.and_eq_true, Bool.and_eq_true] at h
  exact h.1.1

theorem div_ok_right {M : ErrModel} {x y w : Approx} (hd : Approx.div M x y = some w)
    (h : w.ok = true) : y.ok = true := by
  rw [(div_eq_some hd).2.2.2, Bool.and_eq_true, Bool.and_eq_true] at h
  exact h.1.2

theorem div_exact {M : ErrModel} (a : Approx) (c : Rat) (hc : c ≠ 0) :
    Approx.div M a (Approx.exact c) = some ⟨a.v / c, a.err / |c| + M.E (|a.v / c| + a.err / |c|),
      a.ok && M.safe (|a.v / c| + a.err / |c| + M.E (|a.v / c| + a.err / |c|))⟩ := by
  have hc' : 0 < |c| := abs_pos.mpr hc
  have e : (|a.v| * 0 + |c| * a.err) / (|c| * (|c| - 0)) = a.err / |c| := by
    rw [mul_zero, zero_add, sub_zero, mul_div_mul_left _ _ (ne_of_gt hc')]
  unfold Approx.div
  simp only [Approx.exact, ratAbs_eq_abs, not_le.mpr hc', if_false, e, Bool.and_true]

theorem div_exact_zero {M : ErrModel} (a : Approx) :
    Approx.div M a (Approx.exact 0) = none := by
  simp [Approx.div, Approx.exact, ratAbs_eq_abs]

theorem exact_div {M : ErrModel} (c : Rat) (b : Approx) :
    Approx.div M (Approx.exact c) b = if |b.v| ≤ b.err then none else
      some ⟨c / b.v, |c| * b.err / (|b.v| * (|b.v| - b.err)) +
          M.E (|c / b.v| + |c| * b.err / (|b.v| * (|b.v| - b.err))),
        b.ok && M.safe (|c / b.v| + |c| * b.err / (|b.v| * (|b.v| - b.err)) +
          M.E (|c / b.v| + |c| * b.err / (|b.v| * (|b.v| - b.err))))⟩ := by
  simp only [Approx.div, Approx.exact, ratAbs_eq_abs, mul_zero, add_zero, Bool.true_and]

theorem mul_exact {M : ErrModel} (a : Approx) (c : Rat) :
    Approx.mul M a (Approx.exact c) = ⟨a.v * c, |c| * a.err + M.E (|a.v * c| + |c| * a.err),
      a.ok && M.safe (|a.v * c| + |c| * a.err + M.E (|a.v * c| + |c| * a.err))⟩ := by
  have e : |a.v| * 0 + |c| * a.err + a.err * 0 = |c| * a.err := by ring
  simp only [Approx.mul, Approx.exact, ratAbs_eq_abs, e, Bool.and_true]

section
variable {R} {M : ErrModel} {x y w : Approx} (L : Laws R M) {a b : A}
include L

theorem Realises.mul (ha : Realises R a x) (hb : Realises R b y)
    (hok : (Approx.mul M x y).ok = true) :
    ∃ c, R.mul a b = .ok c ∧ Realises R c (Approx.mul M x y) := by
  obtain ⟨p, hp, hpe⟩ := ha
  obtain ⟨q, hq, hqe⟩ := hb
  simp only [Approx.mul, Bool.and_eq_true, ratAbs_eq_abs] at hok
  simp only [Realises, Approx.mul, ratAbs_eq_abs]
  set perr := |x.v| * y.err + |y.v| * x.err + x.err * y.err
  have hcore : |p * q - x.v * y.v| ≤ perr := abs_mul_sub_mul_le hpe hqe
  have hE := L.wf.E_nonneg (|x.v * y.v| + perr)
  have h0 : 0 ≤ |x.v * y.v| + perr := add_nonneg (abs_nonneg _) ((abs_nonneg _).trans hcore)
  obtain ⟨c, z, hmul, hzv, hze⟩ := L.mul_le hp hq ((abs_le_of_abs_sub_le hcore).trans (le_abs_self _))
    (L.wf.safe_of_le h0 (le_add_of_nonneg_right hE) hok.2)
  exact ⟨c, hmul, z, hzv, abs_sub_le_of_steps hze hcore⟩

theorem Realises.div (ha : Realises R a x) (hb : Realises R b y)
    (hd : Approx.div M x y = some w) (hok : w.ok = true) :
    ∃ c, R.div a b = .ok c ∧ Realises R c w := by
  have hx := ha.err_nonneg
  have hy := hb.err_nonneg
  obtain ⟨p, hp, hpe⟩ := ha
  obtain ⟨q, hq, hqe⟩ := hb
  obtain ⟨hlo, hv, he, hk⟩ := div_eq_some hd
  rw [hk, Bool.and_eq_true] at hok
  simp only [Realises, hv, he]
  have hlo0 : 0 < |y.v| - y.err := sub_pos.mpr hlo
  have hyv0 : 0 < |y.v| := hy.trans_lt hlo
  obtain ⟨hqlo, hqne⟩ := abs_sub_le_abs_of_close hqe hlo
  set num := |x.v| * y.err + |y.v| * x.err
  set perr := num / (|y.v| * (|y.v| - y.err))
  have hcore : |p / q - x.v / y.v| ≤ perr := by
    rw [div_sub_div _ _ hqne (abs_pos.mp hyv0),
      show p * y.v - q * x.v = (p - x.v) * y.v - x.v * (q - y.v) by ring, abs_div, abs_mul]
    refine div_le_div₀ (add_nonneg (mul_nonneg (abs_nonneg _) hy) (mul_nonneg (abs_nonneg _) hx)) ?_
      (mul_pos hyv0 hlo0) ?_
    · refine (abs_sub _ _).trans ?_
      rw [abs_mul, abs_mul, add_comm]
      exact add_le_add (mul_le_mul_of_nonneg_left hqe (abs_nonneg _))
        (mul_le_mul_of_nonneg_right hpe (abs_nonneg _)) |>.trans_eq (by rw [mul_comm x.err])
    · rw [mul_comm]
      exact mul_le_mul_of_nonneg_right hqlo hyv0.le
  have hE := L.wf.E_nonneg (|x.v / y.v| + perr)
  have h0 : 0 ≤ |x.v / y.v| + perr := add_nonneg (abs_nonneg _) ((abs_nonneg _).trans hcore)
  obtain ⟨c, z, hdiv, hzv, hze⟩ := L.div_le hp hq hqne
    ((abs_le_of_abs_sub_le hcore).trans (le_abs_self _))
    (L.wf.safe_of_le h0 (le_add_of_nonneg_right hE) hok.2)
  exact ⟨c, hdiv, z, hzv, abs_sub_le_of_steps hze hcore⟩

theorem Realises.add (ha : Realises R a x) (hb : Realises R b y)
    (hok : (Approx.add M x y).ok = true) :
    ∃ c, R.add a b = .ok c ∧ Realises R c (Approx.add M x y) := by
  have hx := ha.err_nonneg
  have hy := hb.err_nonneg
  obtain ⟨p, hp, hpe⟩ := ha
  obtain ⟨q, hq, hqe⟩ := hb
  simp only [Approx.add, Bool.and_eq_true, ratAbs_eq_abs] at hok
  obtain ⟨⟨⟨-, hsx⟩, hsy⟩, hsafe⟩ := hok
  simp only [Realises, Approx.add, ratAbs_eq_abs]
  have W := L.wf
  -- the laws for `+` want the operands in range as well as the sum
  have hsp : M.safe p = true :=
    W.safe_of_abs_le ((abs_le_of_abs_sub_le hpe).trans (le_abs_self _)) hsx
  have hsq : M.safe q = true :=
    W.safe_of_abs_le ((abs_le_of_abs_sub_le hqe).trans (le_abs_self _)) hsy
  have hcore : |p + q - (x.v + y.v)| ≤ x.err + y.err := by
    rw [show p + q - (x.v + y.v) = (p - x.v) + (q - y.v) by ring]
    exact (abs_add_le _ _).trans (add_le_add hpe hqe)
  have hE := W.Ea_nonneg (|x.v + y.v| + (x.err + y.err))
  have h0 : 0 ≤ |x.v + y.v| + (x.err + y.err) := add_nonneg (abs_nonneg _) (add_nonneg hx hy)
  have ht := (abs_le_of_abs_sub_le hcore).trans (le_abs_self _)
  obtain ⟨c, z, hadd, hzv, hze⟩ := L.add_ok a b p q hp hq hsp hsq
    (W.safe_of_abs_le (ht.trans (abs_le_abs_of_nonneg h0 (le_add_of_nonneg_right hE))) hsafe)
  exact ⟨c, hadd, z, hzv, abs_sub_le_of_steps ((ratAbs_eq_abs _ ▸ hze).trans (W.Ea_le ht)) hcore⟩

end

/-! The same with the hypotheses `0 ≤ x.err`, `0 ≤ y.err` spelt out (they follow from `Realises`). -/

set_option linter.unusedVariables false in
theorem mul_sound {M : ErrModel} (L : Laws R M) (a b : A) (x y : Approx)
    (ha : Realises R a x) (hb : Realises R b y) (hx : 0 ≤ x.err) (hy : 0 ≤ y.err)
    (hok : (Approx.mul M x y).ok = true) :
    ∃ c, R.mul a b = .ok c ∧ Realises R c (Approx.mul M x y) :=
  ha.mul L hb hok

set_option linter.unusedVariables false in
theorem div_sound {M : ErrModel} (L : Laws R M) (a b : A) (x y w : Approx)
    (ha : Realises R a x) (hb : Realises R b y) (hx : 0 ≤ x.err) (hy : 0 ≤ y.err)
    (hd : Approx.div M x y = some w) (hok : w.ok = true) :
    ∃ c, R.div a b = .ok c ∧ Realises R c w :=
  ha.div L hb hd hok

set_option linter.unusedVariables false in
theorem add_sound {M : ErrModel} (L : Laws R M) (a b : A) (x y : Approx)
    (ha : Realises R a x) (hb : Realises R b y) (hx : 0 ≤ x.err) (hy : 0 ≤ y.err)
    (hok : (Approx.add M x y).ok = true) :
    ∃ c, R.add a b = .ok c ∧ Realises R c (Approx.add M x y) :=
  ha.add L hb hok

end Qty
