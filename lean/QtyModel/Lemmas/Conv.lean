import QtyModel.Lemmas.Basic
import QtyModel.Lemmas.Res
/-
  Error analysis of `HasRefUnit::equiv_amount` under the rounding laws: the one computation
  behind conversion, cross-unit comparison, sum, difference and ratio (C01, C02, C03).
-/
namespace Qty

variable {A U : Type} [DecidableEq U] (R : Arith A) (T : QT A U)

theorem convBoundIn_nonneg {M : ErrModel} (W : M.WF) (s1 s2 a : Rat) :
    0 ≤ Oracle.convBoundIn M s1 s2 a := by
  simp only [Oracle.convBoundIn, ratAbs_eq_abs]
  exact add_nonneg (W.E_nonneg _) (mul_nonneg (abs_nonneg a) (W.E_nonneg _))

theorem convBound_nonneg {M : ErrModel} (W : M.WF) (s1 s2 a : Rat) :
    0 ≤ Oracle.convBound M s1 s2 a := by
  rw [Oracle.convBound, ratAbs_eq_abs]
  exact mul_nonneg (abs_nonneg _) (convBoundIn_nonneg W ..)

theorem convBound_of_convBoundIn {M : ErrModel} {s1 s2 a y : Rat} (hs2 : s2 ≠ 0)
    (h : |y - s1 / s2 * a| ≤ Oracle.convBoundIn M s1 s2 a) :
    |y * s2 - a * s1| ≤ Oracle.convBound M s1 s2 a := by
  rw [Oracle.convBound, ratAbs_eq_abs, show y * s2 - a * s1 = s2 * (y - s1 / s2 * a) by field_simp,
    abs_mul]
  exact mul_le_mul_of_nonneg_left h (abs_nonneg s2)

/-- `equiv_amount` into a DIFFERENT unit: one rounded ratio `r'`, one rounded product `y` -/
theorem equiv_ok {M : ErrModel} (L : Laws R M) {q : Q A U} {u : U} {s1 s2 a : Rat}
    (hne : q.unit ≠ u)
    (hs1 : R.val (T.scale q.unit) = some s1) (hs2 : R.val (T.scale u) = some s2) (hs2ne : s2 ≠ 0)
    (ha : R.val q.amount = some a) (hsafe : Oracle.convSafe M s1 s2 a = true) :
    ∃ c y, equivAmount R T q u = .ok c ∧ R.val c = some y ∧
      |y - s1 / s2 * a| ≤ Oracle.convBoundIn M s1 s2 a ∧
      |y| ≤ |s1 / s2| * |a| + Oracle.convBoundIn M s1 s2 a := by
  simp only [Oracle.convSafe, Oracle.convBoundIn, Bool.and_eq_true, ratAbs_eq_abs] at hsafe ⊢
  have hE := L.wf.E_nonneg (s1 / s2)
  have hEB := L.wf.E_nonneg ((|s1 / s2| + M.E (s1 / s2)) * |a|)
  obtain ⟨r, r', hdiv, hr, hre⟩ := L.div_le hs1 hs2 hs2ne le_rfl hsafe.1
  have hB : |r' * a| ≤ (|s1 / s2| + M.E (s1 / s2)) * |a| := by
    rw [abs_mul]
    exact mul_le_mul_of_nonneg_right (abs_le_of_abs_sub_le hre) (abs_nonneg a)
  obtain ⟨c, y, hmul, hy, hye⟩ := L.mul_le hr ha (hB.trans (le_abs_self _))
    (L.wf.safe_of_le (mul_nonneg (add_nonneg (abs_nonneg _) hE) (abs_nonneg a))
      (le_add_of_nonneg_right (add_nonneg hEB (mul_nonneg (abs_nonneg a) hE))) hsafe.2)
  have hmain : |y - s1 / s2 * a| ≤
      M.E ((|s1 / s2| + M.E (s1 / s2)) * |a|) + |a| * M.E (s1 / s2) := by
    have h2 := mul_le_mul_of_nonneg_right hre (abs_nonneg a)
    rw [← abs_mul, sub_mul, mul_comm (M.E _)] at h2
    exact (abs_sub_le_of_steps hye h2).trans_eq (add_comm _ _)
  refine ⟨c, y, ?_, hy, hmain, ?_⟩
  · rw [equivAmount_of_ne R T hne, hdiv]
    exact hmul
  · have := abs_le_of_abs_sub_le hmain
    rwa [abs_mul] at this

/-- between two different units of one (non-zero) scale the conversion is exact in value: the
ratio is `s/s` and the product `1·a` -/
theorem equiv_same_scale {M : ErrModel} (L : Laws R M) {q : Q A U} {u : U} {s a : Rat}
    (hne : q.unit ≠ u)
    (hs1 : R.val (T.scale q.unit) = some s) (hs2 : R.val (T.scale u) = some s) (hs0 : s ≠ 0)
    (ha : R.val q.amount = some a) :
    ∃ c, equivAmount R T q u = .ok c ∧ R.val c = some a := by
  obtain ⟨r, hr, hr1⟩ := L.div_self_val _ _ s hs1 hs2 hs0
  obtain ⟨c, hc, hca⟩ := L.one_mul_val r q.amount a hr1 ha
  exact ⟨c, by rw [equivAmount_of_ne R T hne, hr]; exact hc, hca⟩

end Qty
